import BpModel.Proofs.Names
/-!
# C15 — generated API names follow the documented scheme

`Names.defName` models the composition of a generated definition name (prefix + enclosing message
names + own name, joined per language, case-converted per kind).  Proved for style-conforming
(PascalCase) names: a top-level message / enum / alias appears under exactly its schema name in C,
Go and Python; a nested message is named by its enclosing names followed by its own
(`ZooMonkey` in C and for Go messages, `Zoo_Monkey` in Python and for Go enums), at any nesting depth; a C name prefix ending in `_` contributes its
PascalCase form in front and changes nothing else.  Field names, API function names, file names,
macro names (through `snake_case`, not modelled) and the agreement of this model with the three
formatters are tied by the correspondence check on every generated program.
-/
namespace Bp.C15
open Names

/-- top-level definitions appear under exactly their schema name, in every language -/
theorem C15_toplevel (l : Lang) (k : Kind) (hk : k ≠ .constant) (n : List Char) (hn : IsPascal n) :
    defName l k [] [] n = n := by
  have h : pascalCase n = n := pascalCase_fixed hn
  cases l <;> cases k <;> first | rfl | exact h | exact absurd rfl hk

/-- Python (and Go enums): enclosing names, then the own name, joined by `_` — any depth -/
theorem C15_nested_py (k : Kind) (hk : k ≠ .constant) (scopes : List (List Char)) (n : List Char) :
    defName .py k [] scopes n = joinWith ['_'] (scopes ++ [n]) ∧
    defName .go .enum [] scopes n = joinWith ['_'] (scopes ++ [n]) := by
  cases k <;> first | exact ⟨rfl, rfl⟩ | exact absurd rfl hk

/-- C types and Go messages / aliases: enclosing names followed by the own name, concatenated — any depth -/
theorem C15_nested_c (k : Kind) (hk : k ≠ .constant) (scopes : List (List Char)) (n : List Char)
    (hs : ∀ s ∈ scopes, IsPascal s) (hn : IsPascal n) :
    defName .c k [] scopes n = scopes.flatten ++ n ∧
    defName .go .message [] scopes n = scopes.flatten ++ n ∧
    defName .go .alias [] scopes n = scopes.flatten ++ n := by
  have h := pascalCase_join (scopes ++ [n]) (List.forall_mem_append.mpr ⟨hs, List.forall_mem_singleton.mpr hn⟩)
  rw [List.flatten_append, List.flatten_singleton] at h
  exact ⟨(convert_c hk _).trans h, h, h⟩

/-- the C name prefix (ending in `_`) is put in front in PascalCase and changes nothing else — any depth -/
theorem C15_prefix (k : Kind) (hk : k ≠ .constant) (p : List Char) (scopes : List (List Char)) (n : List Char) (hp : '_' ∉ p) :
    defName .c k (p ++ ['_']) scopes n = pascalPart p ++ defName .c k [] scopes n := by
  rw [defName, defName, convert_c hk, convert_c hk, List.nil_append, List.append_assoc, List.singleton_append,
    pascalCase_append_us p _ hp]

/-- constants and macros: the upper-cased prefix in front of the upper-cased name -/
theorem C15_constant (l : Lang) (pre : List Char) (scopes : List (List Char)) (n : List Char) :
    defName l .constant pre scopes n = upperCase pre ++ upperCase (joinWith ['_'] (scopes ++ [n])) := by
  rw [defName, convert_constant]
  exact List.map_append

/-- an upper-case name is left as it is -/
theorem C15_constant_fixed (l : Lang) (n : List Char) (hn : ∀ c ∈ n, isLowerC c = false) :
    defName l .constant [] [] n = n := by
  rw [defName, convert_constant]
  exact (List.map_congr_left fun c hc => by simp [toUpperC, hn c hc]).trans (List.map_id n)

/-! ### non-vacuity (literals go to the evaluation as character lists; why: `C08.textVerdict_ofList`) -/
example : String.ofList (defName .c .message "lib_".toList ["Zoo".toList] "Monkey".toList) = "LibZooMonkey" := by
  rw [String.ofList_inj, String.toList_ofList, String.toList_ofList, String.toList_ofList]
  decide +kernel
example : String.ofList (defName .c .enum "my_prefix_".toList ["Zoo".toList, "Monkey".toList] "Kind".toList) = "MyPrefixZooMonkeyKind" := by
  rw [String.ofList_inj, String.toList_ofList, String.toList_ofList, String.toList_ofList, String.toList_ofList]
  decide +kernel
example : String.ofList (defName .py .message [] ["Zoo".toList] "Monkey".toList) = "Zoo_Monkey" := by
  rw [String.ofList_inj, String.toList_ofList, String.toList_ofList]
  decide +kernel
example : String.ofList (defName .go .enum [] ["Zoo".toList] "Kind".toList) = "Zoo_Kind" := by
  rw [String.ofList_inj, String.toList_ofList, String.toList_ofList]
  decide +kernel
example : String.ofList (defName .c .constant "lib_".toList [] "MAX_AGE".toList) = "LIB_MAX_AGE" := by
  rw [String.ofList_inj, String.toList_ofList, String.toList_ofList]
  decide +kernel
example : IsPascal "HTTPServer".toList := by
  rw [String.toList_ofList]
  exact ⟨_, _, rfl, by decide, by decide, by decide⟩

end Bp.C15
