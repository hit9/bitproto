import BpModel.Proofs.CDecTree
import BpModel.Proofs.OpMode
/-!
# C06 — the wire is little-endian whatever the host byte order

`be = true` is the runtime built with `BP_BIG_ENDIAN` operating on storage laid out big-endian
(`cellOf true`, the byte-reversed cell).  Outside the model: a real big-endian CPU and its
compiler; the emulation (big-endian build fed byte-reversed storage) is the property's own
observation point and is what the check executes.
-/
namespace Bp.C06

/-- the big-endian build on big-endian storage produces the same wire bytes as the little-endian
build on little-endian storage: both produce the specified bytes -/
theorem C06_rt_encode (t : Ty) (v : Val) (hwf : t.wf = true) (hv : shape t v = true) :
    CRt.encode true t v = CRt.encode false t v ∧ CRt.encode true t v = .ok (Spec.encode t v) := by
  rw [CRt.cencode_eq_spec true t v hwf hv, CRt.cencode_eq_spec false t v hwf hv]
  exact ⟨rfl, rfl⟩

/-- … and consumes the same wire bytes -/
theorem C06_rt_decode (t : Ty) (v : Val) (hwf : t.wf = true) (hv : inRange t v = true) :
    CRt.decode true t (Spec.encode t v) = .ok v ∧ CRt.decode true t (Spec.encode t v) = CRt.decode false t (Spec.encode t v) := by
  rw [CRt.c_roundtrip true t v hwf hv, CRt.c_roundtrip false t v hwf hv]
  exact ⟨rfl, rfl⟩

/-- the staging buffer of a big-endian cell is the little-endian view of the integer it holds -/
theorem C06_stage_in (size u : Nat) (hs : size ≤ 8) :
    bytesToNat (CRt.stageIn size (CRt.cellOf true size u)) = u % 2^(8*size) := CRt.stageIn_cellOf size u hs

theorem C06_stage_out (size D : Nat) (hs1 : 1 ≤ size) (hs : size ≤ 8) (hD : D < 2^(8*size)) :
    CRt.cellVal true (CRt.stageOut size (natToBytes 8 D) (zeros size)) = D := CRt.cellVal_stageOut size D hs hD

/-- word fast paths disabled on big-endian change nothing in the result -/
theorem C06_copier_build_indep (n D S di si : Nat) (hz : ∀ p, di ≤ p → D.testBit p = false) :
    (CRt.copyBits true n D S di si).D = (CRt.copyBits false n D S di si).D :=
  Nat.eq_of_testBit_eq fun p => by
    rw [(CRt.copyBits_spec true n D S di si hz).2.2 p, (CRt.copyBits_spec false n D S di si hz).2.2 p]

/-- base-type level, both directions, any width 1..64 at any bit offset -/
theorem C06_leaf (n : Nat) (hn : n ≤ 64) (x : Int) :
    PyRt.Writes (CRt.encLeafAct true n x) (leafBits n x) ∧ PyRt.Writes (CRt.encLeafAct false n x) (leafBits n x) :=
  ⟨CRt.writes_cleaf true n hn x, CRt.writes_cleaf false n hn x⟩

/-- the big-endian branch of optimization-mode output (value-shift items never look at bytes)
produces and consumes the same wire bytes as the little-endian branch -/
theorem C06_opmode (t : Ty) (v : Val) (hne : Wire.noExt t = true) (hwf : t.wf = true) (hv : shape t v = true) :
    Wire.encodeWith (OpMode.encLeaf .cBE) t v = Wire.encodeWith (OpMode.encLeaf .cLE) t v := by
  rw [OpMode.opEncode_eq_spec .cBE t v hne hwf hv, OpMode.opEncode_eq_spec .cLE t v hne hwf hv]

/-- big-endian detection: `BP_BIG_ENDIAN` is defined exactly when the user predefines it or one of
the documented compiler macros says big-endian (decision table of lib/c/bitproto.c:16-22) -/
structure Macros where
  bpBigEndian : Bool          -- user predefined BP_BIG_ENDIAN
  byteOrderBig : Bool         -- defined(__BYTE_ORDER__) && __BYTE_ORDER__ == __ORDER_BIG_ENDIAN__
  armBigEndian : Bool         -- defined(__ARM_BIG_ENDIAN)
  tiBigEndian : Bool          -- defined(__big_endian__)
  bigEndianMacro : Bool       -- defined(__BIG_ENDIAN__)
  littleEndianZero : Bool     -- defined(__LITTLE_ENDIAN__) && __LITTLE_ENDIAN__ == 0
def detect (m : Macros) : Bool :=
  m.bpBigEndian || (!m.bpBigEndian && (m.byteOrderBig || m.armBigEndian || m.tiBigEndian || m.bigEndianMacro || m.littleEndianZero))
theorem C06_detect (m : Macros) :
    detect m = (m.bpBigEndian || m.byteOrderBig || m.armBigEndian || m.tiBigEndian || m.bigEndianMacro || m.littleEndianZero) := by
  unfold detect
  cases m.bpBigEndian <;> simp

def exTy : Ty := (Ty.msg false [(2, .int 7), (1, .uint 3), (4, .array true 3 (.alias (.int 16))),
  (9, .array false 5 (.uint 32)), (7, .int 61)]).normalize
def exVal : Val := .msg [.int 5, .int (-3), .arr [.int 1, .int (-2), .int 4095],
  .int (-1152921504606846976), .arr [.int 1, .int 4294967295, .int 0, .int 77, .int 65536]]
example : exTy.wf = true ∧ inRange exTy exVal = true := by decide +kernel
example : PyRt.okIs (CRt.decode true exTy (Spec.encode exTy exVal)) exVal = true := by decide +kernel

end Bp.C06
