import BpModel.Model.Cli
/-!
# C17 — -O and -F restrict what is generated without altering it
Decision logic of `_main.main` (`Cli.main`) and the filter as list algebra (`Cli.emitted`); the
substance — that the real CLI behaves like this model, that each kept function is textually
identical and that declarations are kept — is the correspondence check's pairwise comparison of
real invocations.
-/
namespace Bp.C17
open Cli

theorem C17_refuse_ext (w : World) (o : Opts) (hO : o.optimize = true) (hc : o.check = false)
    (hx : w.hasExtensible = true) : (main w o).exit ≠ 0 ∧ (main w o).written = [] := by
  simp [main, parseFails, hO, hc, hx]

theorem C17_refuse_lang (w : World) (o : Opts) (l : String) (hl : o.lang = some l) (hO : o.optimize = true)
    (hc : o.check = false) (hs : w.supportsO l = false) : (main w o).exit ≠ 0 ∧ (main w o).written = [] := by
  unfold main
  by_cases hp : parseFails w o = true
  · simp [hp]
  · by_cases hk : w.knownLang l = true <;> simp [hp, hc, hl, hO, hs, hk]

theorem C17_refuse_F (w : World) (o : Opts) (hF : o.filter ≠ []) (hO : o.optimize = false) (hc : o.check = false) :
    (main w o).exit ≠ 0 ∧ (main w o).written = [] := by
  unfold main
  by_cases hp : parseFails w o = true
  · simp [hp]
  · cases o.lang with
    | none => simp [hp, hc]
    | some l => simp [hp, hc, hO, hF]

/-- with `-F names` exactly the named messages get functions, each the same text, in the same order -/
theorem C17_filter {α} (name : α → String) (render : α → String) (names : List String) (hn : names ≠ []) (msgs : List α) :
    emitted name render names msgs = (msgs.filter fun m => names.contains (name m)).map render := by
  simp [emitted, List.isEmpty_eq_false_iff.mpr hn]

/-- … a sublist of what is generated without `-F` -/
theorem C17_filter_sublist {α} (name : α → String) (render : α → String) (names : List String) (msgs : List α) :
    (emitted name render names msgs).Sublist (emitted name render [] msgs) := by
  simp only [emitted, List.isEmpty_nil, Bool.true_or, List.filter_eq_self.mpr fun _ _ => rfl]
  exact List.filter_sublist.map _

end Bp.C17
