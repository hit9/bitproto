import BpModel.Proofs.CDecTree
import BpModel.Proofs.BridgePy
/-!
# C05 — forward compatibility: an older schema decodes data from an extended one

`Evo S1 S2` is the structural relation generated by the two permitted steps (append fields with
larger numbers to an extensible message; grow an extensible array) at any nesting depth, closed
under reflexivity and transitivity (`C05_chain`), so it covers every chain `S1 → S2 → …`.
The array part of the statement was false of the unchanged runtimes (skip = sender capacity ×
receiver capacity); they were repaired by a `fix:` commit and the model follows the repaired
formula.  `KF_array_skip_old_formula_witness` records the negation for the old formula.
-/
namespace Bp.C05

/-- the wire format is forward compatible: the prefix-honouring decoder of `S1` on `S2`'s bytes
yields, for every field and element that exists in `S1`, exactly the value that was encoded -/
theorem C05_spec {S1 S2 : Ty} (hE : Evo S1 S2) (v2 : Val) (hwf : S2.wf = true) (hr : inRange S2 v2 = true) :
    Spec.decode S1 (Spec.encode S2 v2) = some (Spec.proj S1 v2) := by
  rw [Spec.decode, spec_dec_evo hE v2 hwf hr]
  rfl

/-- the Python runtime generated from `S1` decodes every `S2`-encoded buffer to the projection -/
theorem C05_py {S1 S2 : Ty} (hE : Evo S1 S2) (v2 : Val) (hwf1 : S1.wf = true) (hz1 : enumZero S1 = true)
    (hwf2 : S2.wf = true) (hr : inRange S2 v2 = true) :
    PyRt.decode S1 (Spec.encode S2 v2) (PyRt.fresh S1) = .ok (Spec.proj S1 v2) :=
  py_dec_evo hE v2 hwf1 hz1 hwf2 hr

/-- the C runtime generated from `S1` (either build) decodes every `S2`-encoded buffer into a zeroed
struct to the projection -/
theorem C05_c (be : Bool) {S1 S2 : Ty} (hE : Evo S1 S2) (v2 : Val) (hwf1 : S1.wf = true)
    (hwf2 : S2.wf = true) (hr : inRange S2 v2 = true) :
    CRt.decode be S1 (Spec.encode S2 v2) = .ok (Spec.proj S1 v2) :=
  CRt.c_dec_evo be hE v2 hwf1 hwf2 hr

/-- every field that follows an extended region is decoded from the right position: the decoder
stops exactly behind `S2`'s encoding, wherever the node sits in the stream -/
theorem C05_cursor {S1 S2 : Ty} (hE : Evo S1 S2) (v2 : Val) (W L i : Nat) (hwf : S2.wf = true)
    (hr : inRange S2 v2 = true) (hb : HoldsBits (Spec.bits S2 v2) W i) (hL : i + S2.nbits ≤ L) :
    Spec.dec S1 W L i = some (Spec.proj S1 v2, i + S2.nbits) :=
  dec_evo hE v2 W L i hwf hr hb hL

/-- all chains of permitted steps -/
theorem C05_chain {a b c : Ty} (h1 : Evo a b) (h2 : Evo b c) : Evo a c := Evo.trans h1 h2
theorem C05_refl (t : Ty) (h : t.wf = true) : Evo t t := Evo.refl t h
theorem C05_step_append (fs extra : List (Nat × Ty)) (h : wfFields fs = true) :
    Evo (.msg true fs) (.msg true (fs ++ extra)) := by
  refine .msg ?_
  induction fs with
  | nil => cases extra with
    | nil => exact .nil
    | cons f r => exact .extra
  | cons f fs ih =>
    exact .cons (Evo.refl f.2 (wfFields_cons h).1) (ih (wfFields_cons h).2)
theorem C05_step_grow (c1 c2 : Nat) (e : Ty) (h1 : 1 ≤ c1) (h12 : c1 ≤ c2) (he : e.wf = true) :
    Evo (.array true c1 e) (.array true c2 e) :=
  .arr h1 h12 (fun h => nomatch h) (Evo.refl e he)

/-! ### the old skip formula, negation by witness
`uint8[2]'` reading `uint8[4]' = [1,2,3,4]` followed by `uint8 = 0xAB`. -/
def oldSkip (i ahead cap i2 : Nat) : Nat := if i + ahead * cap ≥ i2 then i + ahead * cap else i2
def S1 : Ty := .msg false [(1, .array true 2 (.uint 8)), (2, .uint 8)]
def S2 : Ty := .msg false [(1, .array true 4 (.uint 8)), (2, .uint 8)]
def v2 : Val := .msg [.arr [.int 1, .int 2, .int 3, .int 4], .int 0xAB]
/-- with the unchanged formula the cursor after the array is bit 16 + 16 = 32 (= 0 + 4·2 … ≥ 32 is
false, so it stays at 32) and the next field is read as 3; the repaired decoder reads 0xAB -/
theorem KF_array_skip_old_formula_witness :
    oldSkip 0 4 2 32 = 32 ∧ readNat (bytesToNat (Spec.encode S2 v2)) 32 8 = 3 ∧
    PyRt.okIs (PyRt.decode S1 (Spec.encode S2 v2) (PyRt.fresh S1)) (.msg [.arr [.int 1, .int 2], .int 0xAB]) = true := by
  decide +kernel

/-! ### non-vacuity: a nested evolution -/
def T1 : Ty := .msg false [(1, .array true 2 (.msg true [(1, .uint 3)])), (2, .int 5)]
def T2 : Ty := .msg false [(1, .array true 3 (.msg true [(1, .uint 3), (4, .int 9)])), (2, .int 5)]
def w2 : Val := .msg [.arr [.msg [.int 7, .int (-200)], .msg [.int 1, .int 255], .msg [.int 2, .int 0]], .int (-16)]
theorem exEvo : Evo T1 T2 :=
  .msg (.cons (.arr (by decide) (by decide) (by simp) (.msg (.cons .uint .extra))) (.cons .int .nil))
example : T1.wf = true ∧ enumZero T1 = true ∧ T2.wf = true ∧ inRange T2 w2 = true := by decide +kernel
example : PyRt.okIs (PyRt.decode T1 (Spec.encode T2 w2) (PyRt.fresh T1))
    (.msg [.arr [.msg [.int 7], .msg [.int 1]], .int (-16)]) = true := by decide +kernel

end Bp.C05
