import BpModel.Proofs.CEncTree
import BpModel.Proofs.OpMode
import BpModel.Proofs.BridgeFmt
/-!
# C04 — optimization mode (-O) changes how, never what, is encoded (C and Go)

`OpMode.planLeaf` is the compile-time copy plan (`formatter.py`), `OpMode.encLeaf d` / `decLeaf`
the meaning of the emitted statements in dialect `d` (C little-endian byte-pointer items, C
big-endian value-shift items, Go items); `Wire.encodeWith` / `decodeWith` run them over a
traditional type tree.  Hypotheses: zeroed output buffer and zeroed target (the property's
"zeroed target"; the C encoder's `=` on the first write to each byte makes the zeroed buffer
unnecessary in C, which is not needed for — and not claimed by — these theorems).
Outside the model: Go statements are never executed here (no toolchain); their meaning is the Go
item semantics written from the language specification.  The tie for the *generated text* is that
every generated program of a run is parsed back into items and compared with this plan.
-/
namespace Bp.C04
open OpMode

/-- the plan covers every bit of a leaf exactly once, in order, each item inside one stream byte
and one value byte -/
theorem C04_plan_cover (n : Nat) (i : Nat) :
    (planChunks n n i 0).sum = n ∧ ∀ c ∈ planChunks n n i 0, 0 < c ∧ c ≤ 8 :=
  planChunks_cover n n i 0 (Nat.le_refl n)

/-- every dialect encodes every value of a traditional schema to exactly the specified bytes … -/
theorem C04_encode (d : Dialect) (t : Ty) (v : Val) (hne : Wire.noExt t = true) (hwf : t.wf = true)
    (hv : shape t v = true) :
    Wire.encodeWith (encLeaf d) t v = .ok (Spec.encode t v) :=
  opEncode_eq_spec d t v hne hwf hv

/-- … which are the bytes standard mode produces (C runtime on either build, Python runtime) -/
theorem C04_same_as_standard (d : Dialect) (be : Bool) (t : Ty) (v : Val) (hne : Wire.noExt t = true)
    (hwf : t.wf = true) (hv : shape t v = true) :
    Wire.encodeWith (encLeaf d) t v = CRt.encode be t v ∧ Wire.encodeWith (encLeaf d) t v = PyRt.encode t v := by
  rw [C04_encode d t v hne hwf hv, CRt.cencode_eq_spec be t v hwf hv, PyRt.encode_eq_spec t v hv]
  exact ⟨rfl, rfl⟩

/-- and decodes every such buffer into a zeroed target to exactly the same field values (signed
ones sign-extended by the dialect's sign statement) -/
theorem C04_decode (t : Ty) (v : Val) (hne : Wire.noExt t = true) (hwf : t.wf = true) (hv : inRange t v = true) :
    Wire.decodeWith decLeaf t (Spec.encode t v) = .ok v :=
  Wire.decodeWith_roundtrip decLeaf decLeaf_ok t v hne hwf hv

/-- leaf level: each dialect writes exactly the chunk, reads exactly the wire value -/
theorem C04_leaf (d : Dialect) (n : Nat) (hn : n ≤ 64) (x : Int) : PyRt.Writes (encLeaf d n x) (leafBits n x) :=
  writes_opLeaf d n hn x
theorem C04_leaf_dec : Wire.ReaderOk decLeaf := decLeaf_ok

/-- which code path the emitted text selects, per `--endian` setting and `BP_BIG_ENDIAN` -/
inductive Endian | little | big | both
def selected (e : Endian) (bpBigEndianDefined : Bool) : Dialect :=
  match e with
  | .little => .cLE
  | .big => .cBE
  | .both => if bpBigEndianDefined then .cBE else .cLE     -- `#ifndef BP_BIG_ENDIAN … #else … #endif`
theorem C04_endian_select (e : Endian) (m : Bool) (t : Ty) (v : Val) (hne : Wire.noExt t = true)
    (hwf : t.wf = true) (hv : shape t v = true) :
    Wire.encodeWith (encLeaf (selected e m)) t v = .ok (Spec.encode t v) :=
  C04_encode _ t v hne hwf hv

/-- the translator tie: the compile-time mask as `formatter.py` reads now -/
theorem C04_mask_tied : ∀ k : Fin 8, ∀ c : Fin 9,
    Gen.FmtHelpers.op_mode_get_mask k.val c.val = (getMask k.val c.val : Nat) := Bridge.op_mode_get_mask_eq

def exTy : Ty := (Ty.msg false [(2, .int 7), (1, .uint 3), (4, .array false 3 (.alias (.int 13))),
  (3, .msg false [(1, .enum 12 [0, 3000]), (2, .bool)]), (7, .int 61)]).normalize
def exVal : Val := .msg [.int 5, .int (-3), .msg [.int 3000, .int 1], .arr [.int 1, .int (-2), .int 4095],
  .int (-1152921504606846976)]
example : Wire.noExt exTy = true ∧ exTy.wf = true ∧ inRange exTy exVal = true := by decide +kernel
example : PyRt.okIs (Wire.decodeWith decLeaf exTy (Spec.encode exTy exVal)) exVal = true := by decide +kernel

end Bp.C04
