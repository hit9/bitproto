import BpModel.Proofs.PyEncTree
import BpModel.Proofs.BridgePy
/-!
# C01 — the Python encoder emits exactly the specified bit layout

`PyRt` is the model of `bp.py` plus the
generated accessor code, tied to /repo by the bridge lemmas of `Proofs/BridgePy.lean` (translator)
and by the `py.encode` correspondence; `Spec` is the wire format as the property words it.
-/
namespace Bp.C01

/-- The generated `encode()` raises nothing and returns exactly the specified bytes, for every
(normalised) type and every value of its shape.  In-range values are a special case
(`C01_py_encode_in_range`); no well-formedness hypothesis is needed. -/
theorem C01_py_encode_is_spec (t : Ty) (v : Val) (hv : shape t v = true) :
    PyRt.encode t v = .ok (Spec.encode t v) :=
  PyRt.encode_eq_spec t v hv

theorem C01_py_encode_in_range (t : Ty) (v : Val) (hv : inRange t v = true) :
    PyRt.encode t v = .ok (Spec.encode t v) :=
  PyRt.encode_eq_spec t v (PyRt.shape_of_inRange t v hv)

/-- exactly `⌈N/8⌉` bytes -/
theorem C01_length (t : Ty) (v : Val) : (Spec.encode t v).length = (t.nbits + 7) / 8 :=
  Spec.encode_length t v

/-- the bit stream has exactly `N` bits -/
theorem C01_nbits_of_stream (t : Ty) (v : Val) (hv : shape t v = true) :
    (Spec.bits t v).length = t.nbits := PyRt.bits_length t v hv

theorem streamBit_encode (t : Ty) (v : Val) (k : Nat) :
    streamBit (Spec.encode t v) k = (decide (k < 8 * nbytes t.nbits) && bitAt (Spec.bits t v) k) := by
  rw [Spec.encode, streamBit_eq _ (natToBytes_allBytes _ _), packed_testBit]

/-- stream bit `k` is stored in byte `k / 8` at bit position `k % 8` -/
theorem C01_bit (t : Ty) (v : Val) (k : Nat) (hk : k < t.nbits) :
    streamBit (Spec.encode t v) k = bitAt (Spec.bits t v) k := by
  rw [streamBit_encode, decide_eq_true (Nat.lt_of_lt_of_le hk (le_nbytes _)), Bool.true_and]

/-- all padding bits after bit `N - 1` are zero -/
theorem C01_padding (t : Ty) (v : Val) (hv : shape t v = true) (k : Nat) (hk : t.nbits ≤ k) :
    streamBit (Spec.encode t v) k = false := by
  rw [streamBit_encode, bitAt_of_le _ _ (PyRt.bits_length t v hv ▸ hk), Bool.and_false]

/-- a scalar occupies exactly its declared width, least significant bit first, as the two's
complement truncated to the width: bit `k` of the chunk is bit `k` of the value -/
theorem C01_scalar_bits (n : Nat) (x : Int) (k : Nat) :
    bitAt (leafBits n x) k = (decide (k < n) && PyInt.tb x k) := bitAt_leafBits n x k

/-- for an in-range unsigned value that is simply its binary representation -/
theorem C01_scalar_unsigned (n : Nat) (x : Nat) (k : Nat) (hk : k < n) :
    bitAt (leafBits n (x : Int)) k = x.testBit k := by
  rw [C01_scalar_bits]; simp [hk]

/-! ### N = sum of the leaf widths + 16 per extensible node -/
mutual
def leafSum : Ty → Nat
  | .bool => 1 | .byte => 8 | .uint n => n | .int n => n | .enum n _ => n
  | .alias t => leafSum t
  | .array _ cap e => cap * leafSum e
  | .msg _ fs => leafSumFields fs
def leafSumFields : List (Nat × Ty) → Nat
  | [] => 0
  | (_, t) :: fs => leafSum t + leafSumFields fs
end
mutual
/-- number of extensible nodes, counted once per occurrence on the wire -/
def extCount : Ty → Nat
  | .alias t => extCount t
  | .array ext cap e => (if ext then 1 else 0) + cap * extCount e
  | .msg ext fs => (if ext then 1 else 0) + extCountFields fs
  | _ => 0
def extCountFields : List (Nat × Ty) → Nat
  | [] => 0
  | (_, t) :: fs => extCount t + extCountFields fs
end

theorem extBits_eq (ext : Bool) : extBits ext = 16 * (if ext then 1 else 0) := by cases ext <;> rfl

mutual
theorem C01_nbits : ∀ (t : Ty), t.nbits = leafSum t + 16 * extCount t
  | .bool | .byte | .uint _ | .int _ | .enum _ _ => rfl
  | .alias t => C01_nbits t
  | .array ext cap e => by
      rw [Ty.nbits, leafSum, extCount, C01_nbits e, extBits_eq, Nat.mul_add cap, Nat.mul_left_comm cap, Nat.mul_add 16,
        Nat.add_left_comm]
  | .msg ext fs => by
      rw [Ty.nbits, leafSum, extCount, C01_nbits_fields fs, extBits_eq, Nat.mul_add, Nat.add_left_comm]
theorem C01_nbits_fields : ∀ (fs : List (Nat × Ty)),
    fieldsBits fs = leafSumFields fs + 16 * extCountFields fs
  | [] => rfl
  | (_, t) :: fs => by
      rw [fieldsBits, leafSumFields, extCountFields, C01_nbits t, C01_nbits_fields fs, Nat.mul_add,
        Nat.add_add_add_comm]
end

/-! ### field order: ascending field number, no gap -/

/-- fields of a message are laid out one after the other, in list order, after the optional
16-bit size prefix -/
theorem C01_message_layout (ext : Bool) (fs : List (Nat × Ty)) (vs : List Val) :
    Spec.bits (.msg ext fs) (.msg vs) =
      (if ext then natBits 16 (Ty.msg ext fs).nbits else []) ++ Spec.bitsFields fs vs := rfl

theorem C01_array_layout (ext : Bool) (cap : Nat) (e : Ty) (vs : List Val) :
    Spec.bits (.array ext cap e) (.arr vs) =
      (if ext then natBits 16 cap else []) ++ vs.flatMap (Spec.bits e) := rfl

theorem insertBy_perm {α} (p : Nat × α) : ∀ (l : List (Nat × α)),
    (insertBy p l).Perm (p :: l)
  | [] => .refl _
  | q :: qs => by
    rw [insertBy]
    split
    · exact .refl _
    · exact ((insertBy_perm p qs).cons q).trans (.swap p q qs)

/-- normalisation only permutes the fields … -/
theorem C01_sort_perm {α} : ∀ (l : List (Nat × α)), (sortBy l).Perm l
  | [] => .nil
  | p :: ps => (insertBy_perm p _).trans ((C01_sort_perm ps).cons p)

def Ascending {α} (l : List (Nat × α)) : Prop := l.Pairwise (fun a b => a.1 ≤ b.1)

theorem insertBy_ascending {α} (p : Nat × α) : ∀ (l : List (Nat × α)), Ascending l → Ascending (insertBy p l)
  | [], _ => List.pairwise_singleton _ _
  | q :: qs, h => by
    obtain ⟨hq1, hq⟩ := List.pairwise_cons.mp h
    rw [insertBy]
    by_cases hle : p.1 ≤ q.1
    · rw [if_pos hle]
      exact List.pairwise_cons.mpr ⟨List.forall_mem_cons.mpr ⟨hle, fun b hb => Nat.le_trans hle (hq1 b hb)⟩, h⟩
    · rw [if_neg hle]
      have hall : ∀ b ∈ p :: qs, q.1 ≤ b.1 := List.forall_mem_cons.mpr ⟨Nat.le_of_not_le hle, hq1⟩
      exact List.pairwise_cons.mpr
        ⟨fun b hb => hall b ((insertBy_perm p qs).mem_iff.mp hb), insertBy_ascending p qs hq⟩

/-- … into ascending field-number order: this is the order `Spec.bits` (and the encoder) lays the
fields out in -/
theorem C01_sort_ascending {α} : ∀ (l : List (Nat × α)), Ascending (sortBy l)
  | [] => List.Pairwise.nil
  | p :: ps => insertBy_ascending p _ (C01_sort_ascending ps)

/-- the tie to the source text of the helpers (translator): as `bp.py` reads now, its helpers are
the ones the model uses, on the whole domain the runtime exercises -/
theorem C01_helpers_tied :
    (∀ k : Fin 8, ∀ c : Fin 9, Gen.PyHelpers.get_mask k.val c.val = (getMask k.val c.val : Nat)) ∧
    (∀ n : Fin 256, ∀ k : Fin 15, Gen.PyHelpers.smart_shift n.val ((k.val : Int) - 7) =
        (smartShift n.val ((k.val : Int) - 7) : Nat)) ∧
    (∀ i j n : Nat, j ≤ n → Gen.PyHelpers.get_nbits_to_copy i j n = (nbitsToCopy i j n : Nat)) :=
  ⟨Bridge.get_mask_eq, Bridge.smart_shift_eq, Bridge.get_nbits_to_copy_eq⟩

/-! ### non-vacuity: a concrete non-trivial instance satisfies the hypotheses -/
def exTy : Ty := (Ty.msg false [(2, .int 7), (1, .uint 3),
  (4, .array true 3 (.alias (.int 13))), (3, .msg true [(1, .enum 3 [0, 5]), (2, .bool)])]).normalize
def exVal : Val := .msg [.int 5, .int (-3), .msg [.int 5, .int 1], .arr [.int 1, .int (-2), .int 4095]]
example : exTy.wf = true ∧ inRange exTy exVal = true ∧ shape exTy exVal = true := by decide +kernel
example : Spec.encode exTy exVal = [237, 83, 0, 244, 0, 64, 0, 240, 255, 255, 15] := by decide +kernel
example : (PyRt.encode exTy exVal).toOption = some [237, 83, 0, 244, 0, 64, 0, 240, 255, 255, 15] := by
  decide +kernel

end Bp.C01
