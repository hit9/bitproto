import BpModel.Proofs.CDecTree
import BpModel.Proofs.BridgeFmt
import BpModel.Proofs.OpMode
/-!
# C07 — encoding touches exactly its bytes, and each field exactly its bits

Bounds are statements about the *modelled accesses*: the Python model raises `IndexError` for any
index beyond the buffer, the C model returns `.oob` for any byte of the wire buffer, a cell or the
staging buffer outside the object; the theorems say these never happen with a buffer of exactly
`⌈N/8⌉` bytes and cells of exactly their storage size.  Memory outside the modelled objects is
observed by the check's guard zones / sanitizer builds (validation, not proof).
-/
namespace Bp.C07

/-- byte-length constant = `⌈N/8⌉`; the compiler's `Type.nbytes()` as the source reads now computes it -/
theorem C07_size_const (n : Nat) : nbytes n = (n + 7) / 8 ∧ Gen.FmtHelpers.type_nbytes n = (nbytes n : Nat) :=
  ⟨rfl, Bridge.type_nbytes_eq n⟩

/-- a field's chunk is a function of the field's low `n` bits only -/
theorem C07_leaf_low_bits (n : Nat) (x y : Int) (h : tc x n = tc y n) : leafBits n x = leafBits n y := by
  unfold leafBits; rw [h]

mutual
/-- every leaf reduced modulo `2^n` (its width) -/
def reduce : Ty → Val → Val
  | .bool, .int x => .int (tc x 1 : Nat)
  | .byte, .int x => .int (tc x 8 : Nat)
  | .uint n, .int x => .int (tc x n : Nat)
  | .int n, .int x => .int (tc x n : Nat)
  | .enum n _, .int x => .int (tc x n : Nat)
  | .alias t, v => reduce t v
  | .array _ _ e, .arr vs => .arr (vs.map (reduce e))
  | .msg _ fs, .msg vs => .msg (reduceFields fs vs)
  | _, v => v
def reduceFields : List (Nat × Ty) → List Val → List Val
  | (_, t) :: fs, v :: vs => reduce t v :: reduceFields fs vs
  | _, vs => vs
end

theorem tc_tc (x : Int) (n : Nat) : tc ((tc x n : Nat) : Int) n = tc x n :=
  Int.ofNat.inj (tc_of_nonneg _ n (Int.natCast_nonneg _) (by exact_mod_cast tc_lt x n))

mutual
theorem bits_reduce : ∀ (t : Ty) (v : Val), Spec.bits t (reduce t v) = Spec.bits t v
  | .bool, v | .byte, v | .uint _, v | .int _, v | .enum _ _, v => by
    cases v with
    | int x => exact C07_leaf_low_bits _ _ x (tc_tc x _)
    | _ => rfl
  | .alias t, v => bits_reduce t v
  | .array ext cap e, .arr vs => by
    simp only [reduce, Spec.bits, List.flatMap_map, bits_reduce e]
  | .msg ext fs, .msg vs => by
    simp only [reduce, Spec.bits, bitsFields_reduce fs vs]
  | .array _ _ _, .int _ | .array _ _ _, .msg _ | .msg _ _, .int _ | .msg _ _, .arr _ => rfl
theorem bitsFields_reduce : ∀ (fs : List (Nat × Ty)) (vs : List Val),
    Spec.bitsFields fs (reduceFields fs vs) = Spec.bitsFields fs vs
  | [], _ | _ :: _, [] => rfl
  | (_, t) :: fs, v :: vs => by
    simp only [reduceFields, Spec.bitsFields, bits_reduce t v, bitsFields_reduce fs vs]
end

/-- the specified bytes do not change when every field is reduced modulo `2^n`: an out-of-range
value (too large, or negative for an unsigned field) changes no bit of another field or of padding -/
theorem C07_spec_mask (t : Ty) (v : Val) : Spec.encode t (reduce t v) = Spec.encode t v := by
  unfold Spec.encode; rw [bits_reduce]

/-- Python: arbitrary (out-of-range) integers in integer fields — the encoder still returns
exactly the specified bytes of the reduced message, without `IndexError`/`ValueError` -/
theorem C07_py_mask (t : Ty) (v : Val) (hv : shape t v = true) :
    PyRt.encode t v = .ok (Spec.encode t (reduce t v)) := by
  rw [C07_spec_mask]; exact PyRt.encode_eq_spec t v hv

/-- C, both builds: arbitrary storage contents of integer cells -/
theorem C07_c_mask (be : Bool) (t : Ty) (v : Val) (hwf : t.wf = true) (hv : shape t v = true) :
    CRt.encode be t v = .ok (Spec.encode t (reduce t v)) := by
  rw [C07_spec_mask]; exact CRt.cencode_eq_spec be t v hwf hv

/-- optimization mode, every dialect: same statement -/
theorem C07_op_mask (d : OpMode.Dialect) (t : Ty) (v : Val) (hne : Wire.noExt t = true) (hwf : t.wf = true)
    (hv : shape t v = true) :
    Wire.encodeWith (OpMode.encLeaf d) t v = .ok (Spec.encode t (reduce t v)) := by
  rw [C07_spec_mask]; exact OpMode.opEncode_eq_spec d t v hne hwf hv

/-- C never leaves the `⌈N/8⌉`-byte buffer, a cell or the staging buffer while encoding (no `.oob`),
on either build -/
theorem C07_c_encode_in_bounds (be : Bool) (t : Ty) (v : Val) (hwf : t.wf = true) (hv : shape t v = true) :
    ∃ bytes, CRt.encode be t v = .ok bytes ∧ bytes.length = nbytes t.nbits :=
  ⟨Spec.encode t v, CRt.cencode_eq_spec be t v hwf hv, Spec.encode_length t v⟩

/-- … nor while decoding a buffer produced by the same schema -/
theorem C07_c_decode_in_bounds (be : Bool) (t : Ty) (v : Val) (hwf : t.wf = true) (hv : inRange t v = true) :
    CRt.decode be t (Spec.encode t v) = .ok v :=
  CRt.c_roundtrip be t v hwf hv

/-- Python: every index used is inside the `⌈N/8⌉`-byte buffer (no `IndexError`) -/
theorem C07_py_in_bounds (t : Ty) (v : Val) (hv : shape t v = true) :
    ∃ bytes, PyRt.encode t v = .ok bytes ∧ bytes.length = nbytes t.nbits :=
  ⟨Spec.encode t v, PyRt.encode_eq_spec t v hv, Spec.encode_length t v⟩

/-- the word-sized stores/loads of the bit copier stay inside the bytes that hold copied bits -/
theorem C07_copier_bounds (be : Bool) (n D S di si : Nat) (hz : ∀ p, di ≤ p → D.testBit p = false) :
    (CRt.copyBits be n D S di si).whi ≤ (di + n + 7) / 8 ∧ (CRt.copyBits be n D S di si).rhi ≤ (si + n + 7) / 8 :=
  have ⟨hw, hr, _⟩ := CRt.copyBits_spec be n D S di si hz
  ⟨hw, hr⟩

/-! ### non-vacuity: an overdriven message -/
def exTy : Ty := .msg false [(1, .uint 3), (2, .int 5), (3, .bool), (4, .array false 2 (.uint 8))]
def exVal : Val := .msg [.int 1000, .int (-77), .int 1, .arr [.int (-1), .int 511]]
example : exTy.wf = true ∧ shape exTy exVal = true ∧ inRange exTy exVal = false := by decide +kernel
example : Val.eqb (reduce exTy exVal) (.msg [.int 0, .int 19, .int 1, .arr [.int 255, .int 255]]) = true := by
  decide +kernel

end Bp.C07
