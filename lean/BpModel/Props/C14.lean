import BpModel.Proofs.CDecTree
import BpModel.Proofs.BridgePy
import BpModel.Proofs.BridgeFmt
/-!
# C14 — every width × bit-offset × signedness combination is bit-exact in every runtime

The finite projection of C01/C02/C03/C06, *instantiated* from the general theorems — so it holds
for all values of each kind, not only the basis values the property lists.  The frames contain no
enum and no extensible node.  The check additionally executes the complete finite space on the
real runtimes.
-/
namespace Bp.C14

/-- the 130 scalar kinds: bool, byte, uint1..64, int1..64 -/
def kind (k : Fin 130) : Ty :=
  if k.val = 0 then .bool else if k.val = 1 then .byte
  else if k.val < 66 then .uint (k.val - 1) else .int (k.val - 65)

/-- positions: scalar, array element, aliased scalar, array of aliased elements -/
def place (pos : Fin 4) (t : Ty) : Ty :=
  match pos.val with
  | 0 => t
  | 1 => .array false 3 t
  | 2 => .alias t
  | _ => .array false 2 (.alias t)

/-- `message { uint<off> pad = 1; <kind in position> x = 2 }` (no pad field for offset 0) -/
def frame (off : Fin 8) (pos : Fin 4) (k : Fin 130) : Ty :=
  .msg false ((if off.val = 0 then [] else [(1, Ty.uint off.val)]) ++ [(2, place pos (kind k))])

/-- each scalar kind is a well-formed, aliasable, enum-free non-array of at most 64 bits -/
theorem kind_ok : ∀ k, (kind k).wf = true ∧ (kind k).aliasable = true ∧ (kind k).isArray = false ∧
    enumZero (kind k) = true ∧ (kind k).nbits ≤ 64 := by
  decide +kernel

theorem place_ok {t : Ty} (h : t.wf = true ∧ t.aliasable = true ∧ t.isArray = false ∧ enumZero t = true ∧
    t.nbits ≤ 64) (pos : Fin 4) :
    (place pos t).wf = true ∧ enumZero (place pos t) = true ∧ (place pos t).nbits ≤ 192 := by
  obtain ⟨h1, h2, h3, h4, h5⟩ := h
  have h6 : (Ty.alias t).isArray = false := rfl
  match pos with
  | 0 | 1 | 2 | 3 => simp [place, Ty.wf, enumZero, Ty.nbits, extBits, h1, h2, h3, h4, h6] <;> omega

/-- every frame is a well-formed schema without enums -/
theorem frames_wf : ∀ off pos k, (frame off pos k).wf = true ∧ enumZero (frame off pos k) = true := by
  intro off pos k
  obtain ⟨h1, h2, h3⟩ := place_ok (kind_ok k) pos
  unfold frame
  split <;> simp [Ty.wf, wfFields, enumZero, enumZeroFields, strictAsc, fieldsBits, extBits, Ty.nbits, h1, h2] <;>
    omega

/-- both array code paths of the C runtime are covered by name: standard widths of integer kinds
take the batch path on the little-endian build, everything else (and the big-endian build) the
per-element loop -/
theorem batch_table : ∀ k : Fin 130,
    CRt.useBatch false (kind k) = (k.val = 1 || k.val = 9 || k.val = 17 || k.val = 33 || k.val = 65 ||
      k.val = 73 || k.val = 81 || k.val = 97 || k.val = 129) ∧ CRt.useBatch true (kind k) = false := by
  decide +kernel

/-- **C14**: for every kind, offset, position and every in-range value, every runtime's encode is the
specified bytes and decode returns the value (with correct sign) -/
theorem C14 (off : Fin 8) (pos : Fin 4) (k : Fin 130) (v : Val) (hv : inRange (frame off pos k) v = true) :
    PyRt.encode (frame off pos k) v = .ok (Spec.encode (frame off pos k) v) ∧
    PyRt.decode (frame off pos k) (Spec.encode (frame off pos k) v) (PyRt.fresh (frame off pos k)) = .ok v ∧
    (∀ be, CRt.encode be (frame off pos k) v = .ok (Spec.encode (frame off pos k) v)) ∧
    (∀ be, CRt.decode be (frame off pos k) (Spec.encode (frame off pos k) v) = .ok v) := by
  obtain ⟨hwf, hz⟩ := frames_wf off pos k
  have hs := PyRt.shape_of_inRange _ v hv
  exact ⟨PyRt.encode_eq_spec _ v hs, py_roundtrip _ v hwf hz hv, fun be => CRt.cencode_eq_spec be _ v hwf hs,
    fun be => CRt.c_roundtrip be _ v hwf hv⟩

/-- the translator tie: helper arithmetic, sign casts and storage widths as the sources read now -/
theorem C14_helpers_tied :
    (∀ k : Fin 8, ∀ c : Fin 9, Gen.PyHelpers.get_mask k.val c.val = (getMask k.val c.val : Nat)) ∧
    (∀ n : Fin 256, ∀ k : Fin 15, Gen.PyHelpers.smart_shift n.val ((k.val : Int) - 7) =
        (smartShift n.val ((k.val : Int) - 7) : Nat)) ∧
    (∀ i j n : Nat, j ≤ n → Gen.PyHelpers.get_nbits_to_copy i j n = (nbitsToCopy i j n : Nat)) ∧
    (∀ v, Gen.PyHelpers.int8 v = PyRt.intW 8 v) ∧ (∀ v, Gen.PyHelpers.int16 v = PyRt.intW 16 v) ∧
    (∀ v, Gen.PyHelpers.int32 v = PyRt.intW 32 v) ∧ (∀ v, Gen.PyHelpers.int64 v = PyRt.intW 64 v) ∧
    (∀ n : Fin 65, 1 ≤ n.val →
      Gen.FmtHelpers.get_nbits_of_integer (Gen.FmtHelpers.type_nbytes n.val) = (storageBits n.val : Nat) ∧
      storageBits n.val = 8 * CRt.storageSize n.val) :=
  ⟨Bridge.get_mask_eq, Bridge.smart_shift_eq, Bridge.get_nbits_to_copy_eq, Bridge.int8_eq, Bridge.int16_eq,
    Bridge.int32_eq, Bridge.int64_eq, Bridge.get_nbits_of_integer_eq⟩

/-! ### non-vacuity: int61 as array element at offset 5, minimum / −1 / single bit -/
example : inRange (frame 5 1 126) (.msg [.int 31, .arr [.int (-1152921504606846976), .int (-1), .int 1099511627776]]) = true := by
  decide +kernel

end Bp.C14
