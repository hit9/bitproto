import BpModel.Model.Cli
import BpModel.Model.Memo
/-!
# C18 — compilation is deterministic

A Lean function is deterministic by construction, so the statement names what could make the real
compiler depend on history and proves the model does not: memoisation (`cache_if_frozen`, `@cache`)
is transparent — for every sequence of queries, a memoised query returns what the unmemoised
function returns, provided entries are only stored for frozen nodes (whose value no longer
changes); and the generated files do not depend on the lint flag.  Hash randomisation, `id()`
reuse, dict implementation and process-level state are runtime effects no model can exhibit; they
are only executed by the correspondence check (environment grid), so the claim is partial there.
-/
namespace Bp.C18

/-- invariant: every stored entry is the function's value -/
def Memo.Ok {K V} (m : Memo K V) (f : K → V) : Prop := ∀ kv ∈ m.table, kv.2 = f kv.1

theorem get_ok {K V} [DecidableEq K] (m : Memo K V) (f : K → V) (frozen : K → Bool) (k : K) (h : m.Ok f) :
    (m.get f frozen k).1 = f k ∧ (m.get f frozen k).2.Ok f := by
  unfold Memo.get
  split
  · rename_i k' v hf
    have hk : k' = k := by simpa using List.find?_some hf
    exact ⟨hk ▸ h _ (List.mem_of_find?_eq_some hf), h⟩
  · split
    · exact ⟨rfl, fun kv hkv => (List.mem_cons.mp hkv).elim (· ▸ rfl) (h kv)⟩
    · exact ⟨rfl, h⟩

/-- **memoisation is transparent over any history**: after any sequence of queries every further
query returns the unmemoised value -/
theorem C18_cache_transparent {K V} [DecidableEq K] (f : K → V) (frozen : K → Bool) :
    ∀ (history : List K) (m : Memo K V), m.Ok f →
      let m' := history.foldl (fun acc k => (acc.get f frozen k).2) m
      m'.Ok f ∧ ∀ k, (m'.get f frozen k).1 = f k := by
  intro history
  induction history with
  | nil => intro m h; exact ⟨h, fun k => (get_ok m f frozen k h).1⟩
  | cons k ks ih =>
    intro m h
    exact ih _ (get_ok m f frozen k h).2

/-- earlier compilations (any earlier state of the table that satisfies the invariant) cannot change
a result -/
theorem C18_prior_runs {K V} [DecidableEq K] (f : K → V) (frozen : K → Bool) (m : Memo K V) (h : m.Ok f) (k : K) :
    (m.get f frozen k).1 = (({} : Memo K V).get f frozen k).1 := by
  rw [(get_ok m f frozen k h).1, (get_ok {} f frozen k fun _ hkv => (List.not_mem_nil hkv).elim).1]

/-- the generated files do not depend on whether linting is enabled (outside check-only mode) -/
theorem C18_lint_indep (w : Cli.World) (o : Cli.Opts) (hc : o.check = false) :
    Cli.main w { o with quiet := true } = Cli.main w { o with quiet := false } := by
  simp [Cli.main, Cli.parseFails, hc]

end Bp.C18
