import BpModel.Proofs.CDecTree
import BpModel.Proofs.BridgeFmt
/-!
# C03 — C standard mode writes/reads the same bytes as the specification and Python

Host = little-endian here (`be = false`); the big-endian statements are C06.  Documented usage
is a hypothesis: zero-initialised output buffer (`unsigned char s[N] = {0}`) and zero-initialised
struct (`struct X x = {0}`) — the copier's partial-byte paths OR into them.
Outside the model: the C *compiler* (optimisation levels, translation-unit layout acting on the
type-punned word accesses); that axis is executed by the check as validation only.
-/
namespace Bp.C03

/-- `Encode<Msg>` writes byte for byte the specified buffer (never leaving it) -/
theorem C03_c_encode (t : Ty) (v : Val) (hwf : t.wf = true) (hv : inRange t v = true) :
    CRt.encode false t v = .ok (Spec.encode t v) :=
  CRt.cencode_eq_spec false t v hwf (PyRt.shape_of_inRange t v hv)

/-- `Decode<Msg>` into a zeroed struct reconstructs exactly the field values (sign-extended for
signed widths: the cells hold the values' integers) -/
theorem C03_c_decode (t : Ty) (v : Val) (hwf : t.wf = true) (hv : inRange t v = true) :
    CRt.decode false t (Spec.encode t v) = .ok v :=
  CRt.c_roundtrip false t v hwf hv

/-- C and Python peers interoperate in both directions -/
theorem C03_interop (t : Ty) (v : Val) (hwf : t.wf = true) (hz : enumZero t = true) (hv : inRange t v = true) :
    CRt.encode false t v = PyRt.encode t v ∧
    (∀ bytes, PyRt.encode t v = .ok bytes → CRt.decode false t bytes = .ok v) ∧
    (∀ bytes, CRt.encode false t v = .ok bytes → PyRt.decode t bytes (PyRt.fresh t) = .ok v) := by
  rw [C03_c_encode t v hwf hv, PyRt.encode_eq_spec t v (PyRt.shape_of_inRange t v hv)]
  refine ⟨rfl, ?_, ?_⟩ <;> rintro _ ⟨⟩
  · exact C03_c_decode t v hwf hv
  · exact py_roundtrip t v hwf hz hv

/-- the generic bit copier, every path (32/16/8-bit assign, sub-byte OR at `di = 0`, general OR):
bit-exact for every `n`, `di`, `si`; writes/reads only bytes that contain a copied/read bit -/
theorem C03_copier (n D S di si : Nat) (hz : ∀ p, di ≤ p → D.testBit p = false) :
    (CRt.copyBits false n D S di si).whi ≤ (di + n + 7) / 8 ∧
    (CRt.copyBits false n D S di si).rhi ≤ (si + n + 7) / 8 ∧
    ∀ p, (CRt.copyBits false n D S di si).D.testBit p =
      (D.testBit p || (decide (di ≤ p) && decide (p < di + n) && S.testBit (si + (p - di)))) :=
  CRt.copyBits_spec false n D S di si hz

/-- the array batch path writes what the per-element loop writes -/
theorem C03_batch_eq_loop (n : Nat) (hstd : n = 8 ∨ n = 16 ∨ n = 32 ∨ n = 64) (vs : List Val) :
    PyRt.Writes (CRt.encBatch n vs) (vs.flatMap fun v => leafBits n (CRt.Val.toInt v)) :=
  CRt.writes_batch n hstd vs

/-- sign handling for widths other than 8/16/32/64 -/
theorem C03_sign (size n u : Nat) (hn1 : 1 ≤ n) (hn : n ≤ 8 * size) (hu : u < 2^n)
    (hstd : (n = 8 ∨ n = 16 ∨ n = 32 ∨ n = 64) → n = 8 * size) :
    sgn (CRt.signFix size n u) (8 * size) = sgn u n := CRt.sgn_signFix size n u hn1 hn hu hstd

/-- the translator tie: integer storage type = smallest of 8/16/32/64 bits covering the width, as
`formatter.py` reads now -/
theorem C03_storage_tied : ∀ n : Fin 65, 1 ≤ n.val →
    Gen.FmtHelpers.get_nbits_of_integer (Gen.FmtHelpers.type_nbytes n.val) = (storageBits n.val : Nat) ∧
    storageBits n.val = 8 * CRt.storageSize n.val := Bridge.get_nbits_of_integer_eq

def exTy : Ty := (Ty.msg false [(2, .int 7), (1, .uint 3), (4, .array true 3 (.alias (.int 16))),
  (3, .msg true [(1, .enum 12 [0, 3000]), (2, .bool)]), (9, .array false 5 (.uint 32)), (7, .int 61)]).normalize
def exVal : Val := .msg [.int 5, .int (-3), .msg [.int 3000, .int 1], .arr [.int 1, .int (-2), .int 4095],
  .int (-1152921504606846976), .arr [.int 1, .int 4294967295, .int 0, .int 77, .int 65536]]
example : exTy.wf = true ∧ enumZero exTy = true ∧ inRange exTy exVal = true := by decide +kernel
example : PyRt.okIs (CRt.decode false exTy (Spec.encode exTy exVal)) exVal = true := by decide +kernel

end Bp.C03
