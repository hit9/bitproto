import BpModel.Proofs.Expr
import BpModel.Proofs.Lit
import BpModel.Proofs.BridgeTables
/-!
# C13 — constants evaluate arithmetically and reach every target language intact

`Expr.parse`/`Expr.eval` model the constant-expression productions and actions of `parser.py`;
`Lit.*` the literal formatters and the literal syntax of C, Go and Python.  Division by zero and
string escapes were defects of the unchanged code (ZeroDivisionError escaping; quotes, backslashes
and newlines emitted verbatim); both were repaired by `fix:` commits and the model follows the
repaired code.  Outside the model: integers beyond what a target's literal syntax/type can hold.
-/
namespace Bp.C13
open Expr Lit

/-- precedence, left associativity and grouping are exactly the ordinary ones: whatever tree is
printed with the usual minimal parentheses parses back to that tree -/
theorem C13_parse_print (e : E) : ∃ N, ∀ f, N ≤ f → parseExpr f 1 (pr 1 e) = some (e, []) :=
  parseExpr_print e

/-- evaluation is ordinary integer arithmetic -/
theorem C13_eval_lit (env) (n : Nat) : eval env (.num n) = .ok (n : Int) := rfl
theorem C13_eval_ref (env) (s : String) (v : Int) (h : env s = some v) : eval env (.ref s) = .ok v := by
  simp [eval, h]
theorem C13_eval_add (env) (l r : E) (a b : Int) (hl : eval env l = .ok a) (hr : eval env r = .ok b) :
    eval env (.bin .add l r) = .ok (a + b) := by simp [eval, hl, hr]
theorem C13_eval_sub (env) (l r : E) (a b : Int) (hl : eval env l = .ok a) (hr : eval env r = .ok b) :
    eval env (.bin .sub l r) = .ok (a - b) := by simp [eval, hl, hr]
theorem C13_eval_mul (env) (l r : E) (a b : Int) (hl : eval env l = .ok a) (hr : eval env r = .ok b) :
    eval env (.bin .mul l r) = .ok (a * b) := by simp [eval, hl, hr]
/-- `/` is integer (floor) division: `a = b·q + r` with `0 ≤ r < b` for a positive divisor -/
theorem C13_eval_div (env) (l r : E) (a b : Int) (hl : eval env l = .ok a) (hr : eval env r = .ok b) (hb : 0 < b) :
    ∃ q, eval env (.bin .div l r) = .ok q ∧ ∃ m, a = b * q + m ∧ 0 ≤ m ∧ m < b :=
  ⟨Int.fdiv a b, by simp [eval, hl, hr, Int.ne_of_gt hb], Int.fmod a b, (Int.mul_fdiv_add_fmod a b).symm,
    Int.fmod_nonneg_of_pos _ hb, Int.fmod_lt_of_pos _ hb⟩
/-- division by zero is reported as a (parser) error, never an internal exception -/
theorem C13_eval_div_zero (env) (l r : E) (a : Int) (hl : eval env l = .ok a) (hr : eval env r = .ok 0) :
    eval env (.bin .div l r) = .error .divZero := by simp [eval, hl, hr]

/-- every integer / boolean / string constant is emitted as a literal that denotes exactly the
declared value, in all three languages -/
theorem C13_emit_int (z : Int) : denoteInt (intLit z) = some z := by
  cases z with
  | ofNat n =>
    obtain ⟨c, r, d, hr, hd⟩ := digits_head n
    rw [intLit, denoteInt]
    · rw [readNat_digits]; rfl
    · intro r' e
      rw [hr] at e; cases e; cases hd
  | negSucc n => simp [intLit, denoteInt, readNat_digits, Int.negSucc_eq]
theorem C13_emit_bool (l : Lang) (b : Bool) : denoteBool l (boolLit l b) = some b := by
  cases l <;> cases b <;> decide
theorem C13_emit_str (s : List Char) : denoteStr (strLit s) = some s := by
  simp [denoteStr, strLit, unescape_escape]

/-- the translator tie: escape table, precedence rows -/
theorem C13_tables_tied :
    (Gen.Tables.emit_escapes.all (fun p => Lit.escChar p.1 == p.2) = true ∧
      Gen.Tables.emit_escapes.map (·.1) = ['\\', '"', '\n', '\t', '\r']) ∧
    Gen.Tables.lexer_escapes = [('t', '\t'), ('r', '\r'), ('n', '\n'), ('\\', '\\'), ('\'', '\''), ('"', '"')] ∧
    Gen.Tables.precedence = [("left", ["PLUS", "MINUS"]), ("left", ["TIMES", "DIVIDE"])] :=
  ⟨Bridge.emit_escapes_eq, Bridge.lexer_escapes_eq, Bridge.precedence_eq.1⟩

/-! ### non-vacuity / examples (evaluated on token lists: `2 + 3 * (7 - 16) / 2`, `8 / 2 / 2 - 1 - 1`) -/
example : (parse [.num 2, .op .add, .num 3, .op .mul, .lp, .num 7, .op .sub, .num 16, .rp, .op .div, .num 2]).map
    (fun e => (eval (fun _ => none) e).toOption) = some (some (-12)) := by decide
example : (parse [.num 8, .op .div, .num 2, .op .div, .num 2, .op .sub, .num 1, .op .sub, .num 1]).map
    (fun e => (eval (fun _ => none) e).toOption) = some (some 0) := by decide
example : (parse [.num 1, .op .div, .lp, .num 2, .op .sub, .num 2, .rp]).map
    (fun e => (eval (fun _ => none) e).toOption) = some none := by decide

end Bp.C13
