import BpModel.Proofs.JsonText
import BpModel.Model.Json
import BpModel.Props.C01
/-!
# C16 — JSON output is valid JSON that states the message's values

`Spec.json` is the JSON *value* both producers must denote.  Proved here: its object keys are the
message's fields in field-number order (for normalised types), and it *states the values*: the
message value can be read back from it exactly (`ofJson (json v) = v`), so no two different
in-range messages share a JSON value.  That Python's `to_dict` / `to_json` and the generated C
`Json<Msg>` text denote this value is established by the correspondence check (`json.loads` of both
real outputs, key order included); `json.dumps`, `dataclasses.asdict` and `vsprintf` are outside the
model.  The Python `to_json` defect for byte arrays (TypeError) was repaired by a `fix:` commit.
-/
namespace Bp.C16

/-- the keys of a message's JSON object are its fields, in list order -/
theorem C16_keys (fs : List (Nat × Ty)) : ∀ (vs : List Val), shapeFields fs vs = true →
    (Spec.jsonFields fs vs).map (·.1) = fs.map (·.1) := by
  induction fs with
  | nil => intro _ _; rfl
  | cons f fs ih =>
    intro vs h
    match f, vs with
    | (k, t), [] => cases h
    | (k, t), v :: vs =>
      rw [shapeFields, Bool.and_eq_true] at h
      rw [Spec.jsonFields, List.map_cons, List.map_cons, ih vs h.2]

/-- … which for a normalised message is ascending field-number order -/
theorem C16_key_order (fs : List (Nat × Ty)) (vs : List Val) (h : shapeFields (sortBy fs) vs = true) :
    ((Spec.jsonFields (sortBy fs) vs).map (·.1)).Pairwise (· ≤ ·) := by
  rw [C16_keys _ vs h]
  exact List.pairwise_map.mpr (C01.C01_sort_ascending fs)

theorem mapM_map_some {α β} (f : α → β) (g : β → Option α) : ∀ (l : List α), (∀ a ∈ l, g (f a) = some a) →
    (l.map f).mapM g = some l
  | [], _ => rfl
  | a :: l, h => by
    simp [List.mapM_cons, h a List.mem_cons_self, mapM_map_some f g l fun b hb => h b (List.mem_cons_of_mem a hb)]

mutual
/-- **the JSON value states the message's values**: every in-range value is recovered exactly -/
theorem C16_faithful : ∀ (t : Ty) (v : Val), inRange t v = true → Spec.ofJson t (Spec.json t v) = some v
  | .bool => fun v h => by
    obtain ⟨x, rfl, h0, h2⟩ := inRange_scalar rfl h
    obtain rfl | rfl : x = 0 ∨ x = 1 := by simp only [Ty.nbits, Int.pow_one] at h2; omega
    all_goals rfl
  | .byte | .uint _ | .int _ | .enum _ _ => fun v h => by
    obtain ⟨x, rfl, _⟩ := inRange_scalar rfl h
    rfl
  | .alias t => C16_faithful t
  | .array _ _ e => fun v h => by
    obtain ⟨vs, rfl, _, hall⟩ := inRange_array h
    rw [Spec.json, Spec.ofJson, mapM_map_some (Spec.json e) (Spec.ofJson e) vs fun v hv => C16_faithful e v (hall v hv)]
    rfl
  | .msg _ fs => fun v h => by
    obtain ⟨vs, rfl, h⟩ := inRange_msg h
    rw [Spec.json, Spec.ofJson, C16_faithful_fields fs vs h]
    rfl
theorem C16_faithful_fields : ∀ (fs : List (Nat × Ty)) (vs : List Val), inRangeFields fs vs = true →
    Spec.ofJsonFields fs (Spec.jsonFields fs vs) = some vs
  | [], [] => fun _ => rfl
  | (k, t) :: fs, v :: vs => fun h => by
    rw [inRangeFields, Bool.and_eq_true] at h
    rw [Spec.jsonFields, Spec.ofJsonFields, if_pos rfl, C16_faithful t v h.1, C16_faithful_fields fs vs h.2]
  | [], _ :: _ | _ :: _, [] => nofun
end

/-- negative signed values appear as negative numbers, booleans as true/false, enums as numbers -/
theorem C16_leaves (n : Nat) (ms : List Nat) (x : Int) :
    Spec.json (.int n) (.int x) = .num x ∧ Spec.json (.enum n ms) (.int x) = .num x ∧
    Spec.json .bool (.int 1) = .bool true ∧ Spec.json .bool (.int 0) = .bool false :=
  ⟨rfl, rfl, rfl, rfl⟩

/-! ### the JSON TEXT (what `Json<Msg>()` and `to_json()` write) can be read back
`JsonText.renderWith` is tied to the real text by exact string comparison on every run
(`tools/ties.py:tie_json_text`); keys are field names, which never contain a quote. -/

/-- the compact text of the C runtime is valid JSON for this reader and states exactly the value -/
theorem C16_text_roundtrip_c (j : JsonText.JT) (hk : JsonText.keysOk j = true) :
    JsonText.parse (JsonText.render j) = some j :=
  JsonText.parse_render JsonText.compact JsonText.compact_ok j hk

/-- likewise with `json.dumps`' default separators (Python `to_json()`) -/
theorem C16_text_roundtrip_py (j : JsonText.JT) (hk : JsonText.keysOk j = true) :
    JsonText.parse (JsonText.renderWith JsonText.pyDefault j) = some j :=
  JsonText.parse_render JsonText.pyDefault JsonText.pyDefault_ok j hk

example : String.ofList (JsonText.render (.obj [("a".toList, .num (-5)), ("b".toList, .arr [.bool true, .obj []]), ("c".toList, .arr [])])) =
    "{\"a\":-5,\"b\":[true,{}],\"c\":[]}" := by
  rw [String.ofList_inj, String.toList_ofList, String.toList_ofList, String.toList_ofList]
  decide +kernel

end Bp.C16
