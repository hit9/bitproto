import BpModel.Model.Parse
import BpModel.Model.Front
import BpModel.Proofs.BridgeTables
/-!
# C08 — a schema is accepted iff it satisfies the documented constraints

`Front.checkProgram` is the executable reference of the documented rules over the abstract surface
syntax (widths 1..64, capacities 1..65535, field numbers 1..255 unique, enum values unique and
representable, names unique per scope — one namespace for fields, nested definitions, constants,
aliases, imports and options —, message ≤ 65535 bits and ≤ max_bytes, aliases only of unnamed types,
one-dimensional arrays, scope placement, known and well-typed options, references declared earlier
and of the right kind, imports neither cyclic nor duplicated) with the rule, file and line of the
first violation.  **What is proved** is about this reference: acceptance implies well-formedness of
every elaborated message type (the hypothesis of C01–C07), the per-rule boundary statements, and
the tie of the numeric limits to the validators' source text.  **The "iff" against the real
compiler is established by correspondence** (every generated valid program and single-violation
mutant must get the same verdict, rule family, file and line from `bitproto.parser.parse` and from
this reference).  The text level is modelled as well (`Lex.lex → Parse.parseText`, tied to PLY's behaviour by the
text-level correspondence): `C08_text_accept_wf` carries the well-formedness statement to source TEXTS.
-/
namespace Bp.C08
open Front

/-- an accepted program's message types are exactly the well-formed types the wire theorems need -/
theorem C08_accept_wf (files : List File) (main : String) (trad : Bool) (e : Ent)
    (h : checkProgram files main trad = .ok e) : ∀ t ∈ msgTys e, t.wf = true := by
  unfold checkProgram at h
  split at h
  · cases h
  · split at h
    next hall =>
      cases h
      exact List.all_eq_true.mp hall
    next => cases h

/-- an answer guarded by a condition is a value exactly when the condition holds -/
theorem exists_ok_ite {α ε} {p : Prop} [Decidable p] {a : α} {e : ε} :
    (∃ t, (if p then Except.ok a else Except.error e) = .ok t) ↔ p := by
  by_cases h : p <;> simp [h]

/-- integer widths are accepted exactly for 1..64 -/
theorem C08_uint_width (c : Ctx) (line n : Nat) :
    (∃ t, elabTy c line (.uint n) = .ok t) ↔ (1 ≤ n ∧ n ≤ 64) := exists_ok_ite
theorem C08_int_width (c : Ctx) (line n : Nat) :
    (∃ t, elabTy c line (.int n) = .ok t) ↔ (1 ≤ n ∧ n ≤ 64) := exists_ok_ite

/-- literal array capacities of a base-typed array are accepted exactly for 1..65535 -/
theorem C08_array_cap (c : Ctx) (line n : Nat) :
    (∃ t, elabTy c line (.array .bool (.lit n) false) = .ok t) ↔ (1 ≤ n ∧ n ≤ 65535) := by
  by_cases h : 1 ≤ n ∧ n ≤ 65535
  · simp [elabTy, evalCap, h, bind, Except.bind]
  · simp [elabTy, evalCap, h, err, bind, Except.bind]

/-- the translator tie: the numeric limits as they stand in `_ast.py` now -/
theorem C08_limits_tied : Gen.Tables.int_nbits_max = 64 ∧ Gen.Tables.array_cap_bound = 65536 ∧
    Gen.Tables.field_number_bound = 256 ∧ Gen.Tables.message_nbits_max = 65535 := Bridge.limits_eq

/-! ### boundary pairs, evaluated: 65535 bits accepted, 65536 rejected — with and without the
16-bit prefix; field numbers 255/256; duplicate number -/
def big (ext : Bool) (last : Nat) : List File :=
  [{ name := "m", proto := "m", items := [.msg 3 "Huge" ext
      [.field 4 "a" 1 (.array (.uint 64) (.lit 1023) false), .field 5 "b" 2 (.uint last)]] }]
def verdict (fs : List File) : String :=
  match checkProgram fs "m" false with
  | .ok _ => "accept"
  | .error d => d.rule
theorem C08_size_boundaries :
    verdict (big false 63) = "accept" ∧ verdict (big false 64) = "message-size-overflow" ∧
    verdict (big true 47) = "accept" ∧ verdict (big true 48) = "message-size-overflow" := by
  decide +kernel
def numbered (a b : Nat) : List File :=
  [{ name := "m", proto := "m", items := [.msg 3 "M" false [.field 4 "x" a .bool, .field 5 "y" b .bool]] }]
theorem C08_field_number_boundaries :
    verdict (numbered 1 255) = "accept" ∧ verdict (numbered 1 256) = "invalid-field-number" ∧
    verdict (numbered 0 2) = "invalid-field-number" ∧ verdict (numbered 7 7) = "duplicate-field-number" := by
  decide +kernel

/-! ### the text-level pipeline (`Lex.lex → Parse.parseText → checkProgram`), evaluated on boundary texts.
These are evaluations (tests of the model by the kernel), not unbounded claims; the unbounded tie of
this pipeline to the real compiler is the text-level correspondence (`tools/props_text.py`). -/
/-- `Parse.textVerdict` of the text with characters `l` -/
def charsVerdict (l : List Char) : String :=
  let p := Parse.parseText l
  match Front.checkProgram [{ name := "m", proto := p.proto, items := p.items }] "m" false with
  | .ok _ => "accept"
  | .error d => d.rule ++ "@" ++ toString d.line

/-- the kernel turns a string literal into its characters at no cost, while evaluating `String.toList` on it
takes time quadratic in its length: the texts below are evaluated through this equation -/
theorem textVerdict_ofList (l : List Char) : Parse.textVerdict (String.ofList l) = charsVerdict l := by
  unfold Parse.textVerdict
  rw [String.toList_ofList]
  rfl

theorem C08_text_examples :
    Parse.textVerdict "proto a\nmessage M { uint3 x = 1 }\n" = "accept" ∧
    Parse.textVerdict "proto a\nmessage M {\n  uint65 x = 1\n}\n" = "invalid-uint-width@3" ∧
    Parse.textVerdict "proto a\nmessage M {\n  uint3 x = 1 // c" = "syntax@0" ∧              -- a comment needs its newline
    Parse.textVerdict "proto a\nmessage M\n{ }\n" = "syntax@2" ∧                             -- a header cannot span lines
    Parse.textVerdict "proto a\nmessage M { uint3 x = 0x1 }\n" = "syntax@2" ∧                 -- field numbers are decimal
    Parse.textVerdict "proto a\nconst A = 2 * (3 + 4)\nmessage M { byte[A] b = 255 }\n" = "accept" ∧
    Parse.textVerdict "proto a\nconst A = 1 / 0\n" = "division-by-zero@2" ∧
    Parse.textVerdict "proto a\nenum E : uint2 { A = 0; B = 4 }\n" = "enum-value-overflow@2" ∧
    Parse.textVerdict "message M { }\n" = "proto-name-undefined@0" ∧
    Parse.textVerdict "proto a\nmessage M { bool type = 1 }\n" = "accept" := by
  refine ⟨?_, ?_, ?_, ?_, ?_, ?_, ?_, ?_, ?_, ?_⟩ <;> exact (textVerdict_ofList _).trans (by decide +kernel)

/-- the order of `push_member`: a statement whose name is already taken in its scope is a duplicate definition, whether or
    not the scope would also have refused that kind of member -/
theorem C08_duplicate_before_placement (c : Ctx) (line : Nat) (st : St) (name : String) (e : Ent) (refuse : Option String)
    (h : (lookup st.members name).isSome = true) :
    pushIf c line st name e refuse = err c "duplicate-definition" line := by
  unfold pushIf; simp [h]

/-- … and a free name in a scope that refuses the member is reported with the scope's rule -/
theorem C08_placement_when_free (c : Ctx) (line : Nat) (st : St) (name : String) (e : Ent) (r : String)
    (h : (lookup st.members name).isSome = false) :
    pushIf c line st name e (some r) = err c r line := by
  unfold pushIf; simp [h]

/-- the same order on texts (kernel evaluations; the compiler gives the same three answers) -/
theorem C08_text_examples_order :
    Parse.textVerdict "proto a\nmessage M {\n  message D { }\n  type D = uint3\n}\n" = "duplicate-definition@4" ∧
    Parse.textVerdict "proto a\nmessage M {\n  type D = uint3\n}\n" = "alias-in-message@3" ∧
    Parse.textVerdict "proto a\nenum E : uint3 {\n  A = 0\n  option A = 1\n}\n" = "duplicate-definition@4" := by
  refine ⟨?_, ?_, ?_⟩ <;> exact (textVerdict_ofList _).trans (by decide +kernel)

/-- a verdict that names a rule is never the word `accept` (every such verdict contains `@`) -/
theorem verdict_ne_accept (r l : String) : r ++ "@" ++ l ≠ "accept" := by
  intro h
  have h2 : '@' ∈ (r ++ "@" ++ l).toList := by simp [String.toList_append]
  rw [h] at h2
  revert h2
  decide

/-- the text-level statement: a source text the pipeline accepts elaborates to an entity whose message types are all
    well-formed (widths 1..64, capacities 1..65535, field numbers 1..255 unique and ascending, at most 65535 bits) — for
    EVERY text, whatever its options say (a satisfied `max_bytes` does not lift the 65535-bit limit) -/
theorem C08_text_accept_wf (text : String) (h : Parse.textVerdict text = "accept") :
    ∃ e, checkProgram [{ name := "m", proto := (Parse.parseText text.toList).proto,
                          items := (Parse.parseText text.toList).items }] "m" false = .ok e ∧
      ∀ t ∈ msgTys e, t.wf = true := by
  unfold Parse.textVerdict at h
  simp only at h
  split at h
  · rename_i e he
    exact ⟨e, he, C08_accept_wf _ _ _ e he⟩
  · exact absurd h (verdict_ne_accept _ _)

end Bp.C08
