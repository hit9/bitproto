import BpModel.Gen.GoHelpers
import BpModel.Proofs.BridgePy
import BpModel.Proofs.BridgeFmt
import BpModel.Proofs.CLeaf
/-!
# C19 — Go standard-mode output describes the same messages as the Python output

Go is never executed here (no toolchain).  What is proved: the Go runtime's pure arithmetic helpers,
*as `lib/go/bitproto.go` reads now* (Go-subset translator, `Gen/GoHelpers.lean`), return the same
results as the Python runtime's, *as `bp.py` reads now* (`Gen/PyHelpers.lean`), on their whole
domain (`smartShift` returns a `byte`, Python's an unbounded int: equal modulo 256, i.e. equal after
any mask ≤ 255 — Appendix B.3); the Go storage types are the smallest covering ones; and the
`<<= d; >>= d` pair the Go renderer emits sign-extends exactly like the specification.
The structural part (struct fields, size constants, processor tree, accessor tables of the generated
`.go` text vs the Python output and the schema) is tied by the correspondence check's structural
parser of both outputs.
-/
namespace Bp.C19

/-- `getMask` (Go) = `get_mask` (Python) on the whole domain the runtimes use -/
theorem C19_getMask : ∀ k : Fin 8, ∀ c : Fin 9,
    Gen.GoHelpers.getMask k.val c.val = Gen.PyHelpers.get_mask k.val c.val := by decide +kernel

theorem C19_min (a b : Int) : Gen.GoHelpers.min a b = min a b := by
  unfold Gen.GoHelpers.min; split <;> omega

/-- `getNbitsToCopy` (Go) = `get_nbits_to_copy` (Python), for every cursor and width -/
theorem C19_getNbitsToCopy (i j n : Nat) (h : j ≤ n) :
    Gen.GoHelpers.getNbitsToCopy i j n = Gen.PyHelpers.get_nbits_to_copy i j n := by
  -- Go's `%` (truncating) and Python's `%` (flooring) agree on naturals; with that the two helpers are one expression,
  -- and `omega` absorbs a different nesting of the `min`s should one of the sources be rearranged
  have hm : ∀ k : Nat, GoOp.mod (k : Int) 8 = PyOp.mod (k : Int) 8 := fun k => by
    rw [GoOp.mod, PyOp.mod, Int.tmod_eq_emod_of_nonneg (Int.natCast_nonneg k),
      Int.fmod_eq_emod_of_nonneg _ (by decide : (0:Int) ≤ 8)]
  simp only [Gen.GoHelpers.getNbitsToCopy, Gen.PyHelpers.get_nbits_to_copy, C19_min, hm, GoOp.sub, PyOp.sub] <;> omega

/-- `smartShift` (Go, byte result) = `smart_shift` (Python) modulo 256, for every byte and shift -/
theorem C19_smartShift : ∀ n : Fin 256, ∀ k : Fin 15,
    Gen.GoHelpers.smartShift n.val ((k.val : Int) - 7) =
      Gen.PyHelpers.smart_shift n.val ((k.val : Int) - 7) % 256 := by decide +kernel

/-- … hence equal after any mask ≤ 255, which is how both runtimes use it -/
theorem C19_smartShift_masked : ∀ n : Fin 256, ∀ k : Fin 15, ∀ m : Fin 9, ∀ c : Fin 9,
    PyOp.and (Gen.GoHelpers.smartShift n.val ((k.val : Int) - 7)) (Gen.PyHelpers.get_mask m.val c.val % 256) =
    PyOp.and (Gen.PyHelpers.smart_shift n.val ((k.val : Int) - 7) % 256) (Gen.PyHelpers.get_mask m.val c.val % 256) := by
  intro n k m c; rw [C19_smartShift n k]

theorem C19_bool_byte : Gen.GoHelpers.Bool2byte true = 1 ∧ Gen.GoHelpers.Bool2byte false = 0 ∧
    (∀ b : Fin 256, Gen.GoHelpers.Byte2bool b.val = decide (b.val ≠ 0)) := by decide +kernel

/-- Go struct field types: the smallest of 8/16/32/64 bits covering the width -/
theorem C19_storage_smallest (n : Nat) (h1 : 1 ≤ n) (h : n ≤ 64) :
    n ≤ storageBits n ∧ (storageBits n = 8 ∨ storageBits n = 16 ∨ storageBits n = 32 ∨ storageBits n = 64) ∧
    ∀ w, (w = 8 ∨ w = 16 ∨ w = 32 ∨ w = 64) → n ≤ w → storageBits n ≤ w := by
  have := storageBits_cases n
  exact ⟨(storageBits_ge n h).1, by omega, fun w hw hn => by omega⟩

/-- the pair `<<= d; >>= d` with `d = storage − width` (typed left shift, arithmetic right shift on
the signed type) sign-extends an `n`-bit pattern exactly as the specification reads it -/
theorem C19_sign_pair (u n W : Nat) (hn1 : 1 ≤ n) (hnW : n ≤ W) (hu : u < 2^n) :
    Int.fdiv (sgn (u * 2^(W - n) % 2^W) W) ((2:Int)^(W - n)) = sgn u n := by
  obtain ⟨d, rfl⟩ := Nat.exists_eq_add_of_le hnW
  rw [Nat.add_sub_cancel_left]
  have hlt : u <<< d < 2^(n + d) := by
    rw [Nat.shiftLeft_eq, Nat.pow_add]
    exact Nat.mul_lt_mul_of_pos_right hu (Nat.pow_pos (by decide))
  -- the pair is an arithmetic shift down of the pattern shifted up: bit `k` of the result is bit `d + k` of the
  -- sign extension from bit `n + d - 1`, which is bit `k` of the sign extension of `u` from bit `n - 1`
  rw [← Nat.shiftLeft_eq, Nat.mod_eq_of_lt hlt, Int.fdiv_eq_ediv_of_nonneg _ (Int.le_of_lt (Int.pow_pos (by decide))),
    PyInt.two_pow_cast, ← Int.shiftRight_eq_div_pow]
  refine PyInt.eq_of_tb_eq _ _ fun k => ?_
  rw [show ∀ x : Int, x >>> d = PyInt.shr x d from fun _ => rfl, PyInt.tb_shr, tb_sgn _ _ hlt, tb_sgn _ _ hu,
    sext, sext, Nat.testBit_shiftLeft, Nat.testBit_shiftLeft]
  rw [Nat.add_sub_cancel_left, show n + d - 1 - d = n - 1 by omega, decide_eq_true (Nat.le_add_right d k),
    decide_eq_true (show n + d - 1 ≥ d by omega), Bool.true_and, Bool.true_and,
    decide_eq_decide.2 (show n + d ≤ d + k ↔ n ≤ k by omega)]

/-- the sign pair is needed (and emitted) exactly for signed widths other than 8/16/32/64 -/
theorem C19_sign_needed (n : Nat) (h1 : 1 ≤ n) (h : n ≤ 64) :
    storageBits n - n = 0 ↔ (n = 8 ∨ n = 16 ∨ n = 32 ∨ n = 64) := by
  have := (storageBits_ge n h).1
  rw [← storageBits_eq_self]
  omega

end Bp.C19
