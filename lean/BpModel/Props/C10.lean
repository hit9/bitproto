import BpModel.Model.Emit
/-!
# C10 — every accepted schema yields code the target toolchains accept

What a theorem can carry is the *declaration discipline* of the output, not gcc's verdict.
`emit` models the order in which `Scope.filter(recursive=True, bound=…)` lists definitions and the
renderers emit them: children first (a definition nested in a message is emitted before that
message), siblings in declaration order.  Proved: every definition is emitted exactly once;
every definition nested in `d` is emitted before `d`; everything belonging to an earlier sibling is
emitted before everything belonging to a later one.  Together with C08/C11 (a use can only refer
to a definition that closed before it: an earlier sibling in an enclosing scope, something nested
in one, or something nested in the using message itself) this is declared-before-use.
The toolchains themselves (gcc, g++ with sizeof/offsetof static_asserts, Python import +
instantiate, static Go discipline) are run by the correspondence check on every generated program;
they validate that this discipline predicts acceptance — they are not the proof.  Known deviations
of the unchanged code are listed in known_findings.json (C helper-name collision, unused Go import,
include name, empty struct size, empty enum, Python vocabulary, Go transitive qualifier); the
nested-import qualification defect was repaired by a `fix:` commit.
-/
namespace Bp.C10

mutual
/-- every definition is emitted exactly once: the emission is a permutation of the declarations -/
theorem C10_emitted_once : ∀ (d : D), (emit d).Perm (ids d)
  | .mk id cs => List.perm_append_comm.trans ((C10_emitted_once_all cs).cons id)
theorem C10_emitted_once_all : ∀ (ds : List D), (emitAll ds).Perm (idsAll ds)
  | [] => .nil
  | d :: ds => (C10_emitted_once d).append (C10_emitted_once_all ds)
end

/-- no two generated declarations share a name when the definitions' (flattened) names are distinct -/
theorem C10_no_duplicate (d : D) (h : (ids d).Nodup) : (emit d).Nodup :=
  (C10_emitted_once d).nodup_iff.mpr h

/-- children first: everything nested in `d` is emitted before `d` itself -/
theorem C10_children_first (id : Nat) (cs : List D) :
    ∃ before, emit (.mk id cs) = before ++ [id] ∧ before.Perm (idsAll cs) :=
  ⟨emitAll cs, rfl, C10_emitted_once_all cs⟩

/-- siblings in declaration order: everything of an earlier sibling comes before everything of a
later one -/
theorem C10_sibling_order (a : D) (rest : List D) :
    emitAll (a :: rest) = emit a ++ emitAll rest := rfl

theorem emitAll_append : ∀ (l1 l2 : List D), emitAll (l1 ++ l2) = emitAll l1 ++ emitAll l2
  | [], _ => rfl
  | d :: l1, l2 => by
    rw [List.cons_append, C10_sibling_order, C10_sibling_order, emitAll_append l1 l2, List.append_assoc]

/-- hence a definition nested anywhere inside an earlier sibling `a` is emitted before any definition of a later
sibling `b`, wherever the two stand among their siblings -/
theorem sibling_before (pre mid post : List D) (a b : D) (x y : Nat) (hx : x ∈ emit a) (hy : y ∈ emit b) :
    ∃ l1 l2 l3, emitAll (pre ++ a :: (mid ++ b :: post)) = l1 ++ x :: l2 ++ y :: l3 := by
  obtain ⟨a1, a2, ha⟩ := List.append_of_mem hx
  obtain ⟨b1, b2, hb⟩ := List.append_of_mem hy
  refine ⟨emitAll pre ++ a1, a2 ++ (emitAll mid ++ b1), b2 ++ emitAll post, ?_⟩
  rw [emitAll_append, C10_sibling_order, emitAll_append, C10_sibling_order, ha, hb]
  simp only [List.append_assoc, List.cons_append]

/-- hence a definition nested anywhere inside an EARLIER sibling `a` is emitted before any
definition of a later sibling `b` (and before the enclosing definition) -/
theorem C10_earlier_sibling_before (a b : D) (rest : List D) (x y : Nat) (hx : x ∈ emit a) (hy : y ∈ emit b) :
    ∃ l1 l2 l3, emitAll (a :: b :: rest) = l1 ++ x :: l2 ++ y :: l3 :=
  sibling_before [] [] rest a b x y hx hy

end Bp.C10
