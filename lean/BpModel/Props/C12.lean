import BpModel.Props.C01
/-!
# C12 — the wire format depends only on field numbers and resolved types

The wire layers work on `Ty` — resolved, name-free type trees — normalised by `Ty.normalize`
(fields sorted by number).  Renaming, moving definitions between scopes or files, comments,
whitespace, semicolons and replacing a literal by an equal-valued constant expression do not change
the elaborated `Ty` *by construction of that representation* (no name, position or trivia survives
elaboration); that the real compiler's elaboration has this property is established by the
correspondence check (rewrite pairs compiled by the real compiler, bytes compared).  What is proved
here are the rewrites that DO change the declared tree: field declaration order, alias
introduction / inlining, order-preserving renumbering — and closure under composition.
-/
namespace Bp.C12
open C01

/-- two ascending lists with pairwise distinct keys that are permutations of each other are equal -/
theorem ascending_perm_unique {α} : ∀ (l1 l2 : List (Nat × α)), Ascending l1 → Ascending l2 →
    (l1.map (·.1)).Nodup → l1.Perm l2 → l1 = l2 :=
  fun _ l2 h1 h2 hnd hp =>
  -- with distinct keys both lists are strictly ascending, and a strict order is trivially antisymmetric
  have hnd2 : (l2.map (·.1)).Nodup := (hp.map _).nodup_iff.mp hnd
  hp.eq_of_pairwise (le := fun a b => a.1 ≤ b.1 ∧ a.1 ≠ b.1)
    (fun _ _ _ _ h h' => absurd (Nat.le_antisymm h.1 h'.1) h.2)
    (h1.and (List.pairwise_map.mp hnd)) (h2.and (List.pairwise_map.mp hnd2))

/-- **reordering field declarations while keeping their numbers** does not change the normalised
message: any two declaration orders (permutations) sort to the same field list -/
theorem C12_reorder_fields {α} (fs fs' : List (Nat × α)) (hp : fs.Perm fs') (hnd : (fs.map (·.1)).Nodup) :
    sortBy fs = sortBy fs' := by
  apply ascending_perm_unique _ _ (C01_sort_ascending fs) (C01_sort_ascending fs')
  · exact ((C01_sort_perm fs).map (·.1)).nodup_iff.mpr hnd
  · exact (C01_sort_perm fs).trans (hp.trans (C01_sort_perm fs').symm)

/-- **a type alias is transparent**: introducing or inlining one changes neither size nor bits -/
theorem C12_alias (t : Ty) (v : Val) : Spec.bits (.alias t) v = Spec.bits t v ∧ (Ty.alias t).nbits = t.nbits :=
  ⟨rfl, rfl⟩
theorem C12_alias_encode (t : Ty) (v : Val) : Spec.encode (.alias t) v = Spec.encode t v := by
  rw [Spec.encode, (C12_alias t v).1, (C12_alias t v).2, Spec.encode]

theorem insertBy_map {α} (f : Nat → Nat) (hf : ∀ a b, a ≤ b ↔ f a ≤ f b) (p : Nat × α) :
    ∀ (l : List (Nat × α)), insertBy (f p.1, p.2) (l.map fun q => (f q.1, q.2)) = (insertBy p l).map fun q => (f q.1, q.2)
  | [] => rfl
  | q :: qs => by
    simp only [List.map_cons, insertBy, ← hf p.1 q.1]
    split
    · rfl
    · rw [insertBy_map f hf p qs]; rfl

/-- **order-preserving renumbering**: sorting commutes with a strictly monotone renumbering, so the
layout order (and hence the bits) is unchanged -/
theorem C12_renumber {α} (f : Nat → Nat) (hf : ∀ a b, a ≤ b ↔ f a ≤ f b) :
    ∀ (fs : List (Nat × α)), sortBy (fs.map fun q => (f q.1, q.2)) = (sortBy fs).map fun q => (f q.1, q.2)
  | [] => rfl
  | p :: ps => by
    simp only [List.map_cons, sortBy, C12_renumber f hf ps]
    exact insertBy_map f hf p (sortBy ps)

/-- field numbers themselves are not on the wire: the bits of a message depend on the field list
only through the order and the types -/
theorem C12_numbers_not_on_wire (ext : Bool) (fs : List (Nat × Ty)) (f : Nat → Nat) (vs : List Val) :
    Spec.bitsFields (fs.map fun q => (f q.1, q.2)) vs = Spec.bitsFields fs vs := by
  induction fs generalizing vs with
  | nil => rfl
  | cons q qs ih =>
    match q, vs with
    | _, [] => rfl
    | (k, t), v :: vs => exact congrArg (Spec.bits t v ++ ·) (ih vs)

/-- closure under composition: every rewrite is an equation between encodings, and equations compose -/
theorem C12_compose {A : Type} (e0 e1 e2 : A) (h1 : e0 = e1) (h2 : e1 = e2) : e0 = e2 := h1.trans h2

example : sortBy [(7, "x"), (2, "y"), (200, "z")] = sortBy [(200, "z"), (7, "x"), (2, "y")] := by decide
example : sortBy ([(7, "x"), (2, "y"), (200, "z")].map fun q => (3 * q.1 + 1, q.2)) =
    (sortBy [(7, "x"), (2, "y"), (200, "z")]).map fun q => (3 * q.1 + 1, q.2) := by decide

end Bp.C12
