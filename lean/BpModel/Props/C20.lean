import BpModel.Proofs.Names
import BpModel.Proofs.Lex
import BpModel.Model.Cli
import BpModel.Model.Lint
import BpModel.Props.C18
/-!
# C20 — lint is advisory and diagnostics point at the right line

Lint rules as the linter states them: message / enum / alias names must be fixed points of
`pascal_case`; constant and enum-member names must satisfy `str.isupper()`; every enum needs a
member of value 0 (field names go through `snake_case`, which is not modelled).  Proved: a
style-conforming name produces no warning, a clearly violating one produces one; the zero-member
rule; lint never changes acceptance or output; check-only mode exits non-zero exactly when there is
an error or a warning.  Lines and columns of warnings, errors, definitions and references are tied
by the correspondence check (positions computed from the source text by the harness' own printer).
Known deviation of the unchanged code: names on the FIRST line of a file get a 0-based column while
other lines are 1-based (KF-col-first-line).
-/
namespace Bp.C20
open Names

/-- style-conforming names produce no warning -/
theorem C20_clean_pascal (n : List Char) (h : IsPascal n) : warnsPascal n = false := by
  simp [warnsPascal, pascalCase_fixed h]
theorem C20_clean_upper (n : List Char) (h1 : n.any isUpperC = true) (h2 : n.any isLowerC = false) :
    warnsUpper n = false := by simp [warnsUpper, pyIsUpper, h1, h2]

/-- each name that clearly violates its convention produces a warning -/
theorem C20_warns_lower_first (c : Char) (rest : List Char) (hc : isLowerC c = true) (hnu : '_' ∉ (c :: rest)) :
    warnsPascal (c :: rest) = true := by
  simp [warnsPascal, pascalCase_ne_of_lower c rest hc hnu]
theorem C20_warns_underscore (n : List Char) (h : '_' ∈ n) : warnsPascal n = true := by
  simp [warnsPascal, pascalCase_ne_of_us n h]
theorem C20_warns_not_upper (n : List Char) (h : n.any isLowerC = true) : warnsUpper n = true := by
  simp [warnsUpper, pyIsUpper, h]

/-- each enum without a zero member produces a warning, and only those -/
theorem C20_enum_zero (values : List Nat) : warnsEnumNoZero values = true ↔ 0 ∉ values := by
  simp [warnsEnumNoZero]

/-- linting never changes acceptance or generated output -/
theorem C20_advisory (w : Cli.World) (o : Cli.Opts) (hc : o.check = false) :
    Cli.main w { o with quiet := true } = Cli.main w { o with quiet := false } :=
  C18.C18_lint_indep w o hc

/-- check-only mode exits non-zero exactly when there is an error or at least one warning -/
theorem C20_check_exit (w : Cli.World) (o : Cli.Opts) (hc : o.check = true) (hq : o.quiet = false) :
    (Cli.main w o).exit ≠ 0 ↔ (w.hasOtherError = true ∨ w.warnings > 0) := by
  simp only [Cli.main, Cli.parseFails, hc, hq, Bool.not_true, Bool.and_false, Bool.false_and, Bool.or_false,
    Bool.false_eq_true, if_false, if_true]
  by_cases he : w.hasOtherError = true <;> by_cases hw : w.warnings > 0 <;> simp [he, hw]

/-! ### lines: what the lexer model attaches to a token is the line it stands on -/

/-- every token carries 1 + the number of NEWLINE tokens before it -/
theorem C20_token_lines (text : List Char) : Lex.LinesOk 1 (Lex.lex text).1 :=
  Lex.lexAll_lines text.length false 1 text

/-- ... and NEWLINE tokens are exactly the line-feed characters: a comment stops before its line feed, a string
cannot contain one, no other token does -/
theorem C20_newlines_are_linefeeds (text : List Char) (h : (Lex.lex text).2 = none) :
    Lex.nlToks (Lex.lex text).1 = text.count '\n' :=
  Lex.lexAll_count text.length false 1 text h

example : ((Lex.lex "proto a // c\nmessage M { }\n".toList).1.map (·.line)) = [1, 1, 1, 1, 2, 2, 2, 2, 2] := by
  rw [String.toList_ofList]
  decide +kernel

end Bp.C20
