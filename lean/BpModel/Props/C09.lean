import BpModel.Proofs.Lexer
import BpModel.Proofs.ExprFuel
import BpModel.Proofs.FrontFuel
import BpModel.Proofs.BridgeTables
import BpModel.Proofs.Lex
import BpModel.Proofs.Parse
/-!
# C09 — compilation is total: any input yields success or a parser error

A Lean function is total by construction, so the content is in the places where the MODEL could
only be written with an explicit "this cannot happen" answer: a checked index (`indexError`, the
Python `IndexError` of `s[i]` in the lexer's escape loop) and fuel (`outOfFuel` / the fuel bounds of
the expression parser, the tokenizer and the import recursion — a hang).  Proved: none of them is
ever the answer.

* string literals: whatever the token regular expression matches, the escape loop ends with the
  value or with `InvalidEscapingChar`;
* constant expressions: every successful parsing step consumes a token, so fuel `2·|tokens| + 2`
  (tokenizer: `|text|`) is never exhausted — `none` always means a syntax error; evaluation ends in
  a value or in one of the two parser errors (division by zero, unbound name);
* imports: the answer of the import recursion does not depend on the fuel beyond `|files| + 1`:
  every nested import hits the cyclic-import check or takes a file out of the set still available.

* text level: the lexer model (`Lex.lex`: PLY's rule order, `\b` boundaries, lazy errors) terminates on
  every text and numbers lines correctly; the grammar model (`Parse.parseText`, a predictive parser
  written from `grammars.py`) never hits a fuel bound either (`C09_grammar_total`): every parsing function
  hands back a token list no longer than the one it got.

Not modelled (tied by the correspondence streams only, hence `partial`): PLY's LALR automaton itself
(the text-level models are tied to it by executing both on the same texts), and the renderers as a
whole (the known defects there — an
empty enum, constants beyond 4300 digits — are listed in known_findings.json).
-/
namespace Bp.C09

/-- the escape loop never leaves by an internal error and never hangs -/
theorem C09_string_literal_total (cs : List Char) (res : Except Lexer.EscErr (List Char)) (rest : List Char)
    (h : Lexer.lexString cs = some (res, rest)) :
    (∃ v, res = .ok v) ∨ res = .error .invalidEscapingChar := by
  obtain ⟨hidx, hfuel⟩ := Lexer.lexString_total cs res rest h
  match res with
  | .ok v => exact .inl ⟨v, rfl⟩
  | .error .invalidEscapingChar => exact .inr rfl
  | .error .indexError => exact absurd rfl hidx
  | .error .outOfFuel => exact absurd rfl hfuel

/-- the expression parser's answer does not depend on fuel beyond `2·|ts| + 2` (it never runs out) -/
theorem C09_expr_parser_fuel (ts : List Expr.Tok) (k : Nat) :
    Expr.parseExpr (2 * ts.length + 2 + k) 1 ts = Expr.parseExpr (2 * ts.length + 2) 1 ts :=
  Expr.parseExpr_fuel 1 ts k

/-- the tokenizer's answer does not depend on fuel beyond `|text|` -/
theorem C09_tokenizer_fuel (cs : List Char) (k : Nat) : Expr.tokenize (cs.length + k) cs = Expr.tokenize cs.length cs :=
  fuel_beyond (Expr.tokenize · cs) _ (fun f hf => Expr.tokenize_stable f cs hf) k

/-- every expression text ends in a value or in a parser error of one of four kinds -/
theorem C09_eval_classified (env : String → Option Int) (text : String) :
    (∃ v, Expr.evalText env text = .ok v) ∨ Expr.evalText env text = .error "lex" ∨ Expr.evalText env text = .error "parse" ∨
    Expr.evalText env text = .error "div0" ∨ ∃ s : String, Expr.evalText env text = .error s!"unbound {s}" := by
  unfold Expr.evalText
  cases Expr.tokenize text.length text.toList with
  | none => exact .inr (.inl rfl)
  | some ts =>
    dsimp only
    cases Expr.parse ts with
    | none => exact .inr (.inr (.inl rfl))
    | some e =>
      dsimp only
      match Expr.eval env e with
      | .ok v => exact .inl ⟨v, rfl⟩
      | .error .divZero => exact .inr (.inr (.inr (.inl rfl)))
      | .error (.unbound s) => exact .inr (.inr (.inr (.inr ⟨s, rfl⟩)))

/-- the import recursion's answer does not depend on fuel beyond `|files| + 1` (it never runs out) -/
theorem C09_import_fuel (files : List Front.File) (trad : Bool) (main : String) (c : Front.Ctx) (line k : Nat) :
    Front.checkFile files trad (files.length + 1 + k) [] main c line = Front.checkFile files trad (files.length + 1) [] main c line :=
  fuel_beyond (Front.checkFile files trad · [] main c line) _
    (fun f hf => Front.checkFile_stable files trad f [] main c line (by have := Front.avail_le files []; omega)) k

/-- **the whole lexer terminates**: for every text, with one unit of fuel per character, the token
list ends in the end of the text or in a lexical error — never in "out of fuel" -/
theorem C09_lexer_total (text : List Char) : (Lex.lex text).2 ≠ some .outOfFuel := Lex.lex_total text

/-- every token carries the line it is on: 1 + the number of NEWLINE tokens before it -/
theorem C09_token_lines (text : List Char) : Lex.LinesOk 1 (Lex.lex text).1 :=
  Lex.lexAll_lines text.length false 1 text

/-- **the grammar model terminates**: for every text, no parsing function of `Parse.lean` ever hits its
fuel bound (`hung` is the ghost flag a fuel stop would set; such a stop is the only way the rule
`hang` can appear in the item list) -/
theorem C09_grammar_total (raw : List Char) : (Parse.parseBody raw).hung = false :=
  (Parse.items_good (Lex.lex_total _) _ _ _ (Nat.lt_succ_self _)).2

/-- one step of a table lookup by first component -/
theorem find_fst_cons {α β} [DecidableEq α] (c a : α) (b : β) (l : List (α × β)) :
    (((a, b) :: l).find? (·.1 == c)).map (·.2) = if c = a then some b else (l.find? (·.1 == c)).map (·.2) := by
  by_cases h : c = a
  · simp [h]
  · simp [h, Ne.symm h]

/-- the translator tie: the model's escape table is `Lexer.escaping_chars` as lexer.py reads now -/
theorem C09_escapes_tied (c : Char) :
    Lexer.escTable c = (Gen.Tables.lexer_escapes.find? (·.1 == c)).map (·.2) := by
  rw [Bridge.lexer_escapes_eq]
  simp only [find_fst_cons]
  rfl

-- literals go to the evaluation as character lists (why: `C08.textVerdict_ofList`)
example : (Lexer.lexString "a\\n\\\"b\" rest".toList).map (fun p => (p.1.toOption, p.2)) = some (some "a\n\"b".toList, " rest".toList) := by
  rw [String.toList_ofList, String.toList_ofList, String.toList_ofList]; decide
example : (Lexer.lexString "a\\qb\"".toList).map (fun p => match p.1 with | .error e => some e | .ok _ => none) = some (some .invalidEscapingChar) := by
  rw [String.toList_ofList]; decide
example : Lexer.lexString "never closed".toList = none := by rw [String.toList_ofList]; decide
example : Lexer.lexString "ends in a backslash\\\"".toList = none := by rw [String.toList_ofList]; decide
example : Expr.parse [.num 1, .op .add, .op .mul] = none := by decide

end Bp.C09
