import BpModel.Model.Front
/-!
# C11 — names resolve to the innermost visible earlier definition

`Front.resolve` is the declarative reading: the scopes enclosing the use, innermost first; in each
scope only the members pushed so far (definitions are pushed when they *close*, so exactly the
definitions that textually precede the use — an enclosing message itself is not yet visible);
the whole dotted path must select a definition inside one scope before the search moves outward;
dotted names descend into messages, enums and imported files (under the file's own name or its
`as` name).  The parse-time algorithm of the real compiler is tied to this by correspondence
(three-way agreement of the elaborated types on generated shadowing programs).
-/
namespace Bp.C11
open Front

/-- the innermost enclosing scope in which the (whole dotted) name selects a definition wins -/
theorem C11_innermost (s : Scope) (outer : List Scope) (p : List String) (e : Ent)
    (h : lookupPath s p = some e) : resolve (s :: outer) p = some e := by simp [resolve, h]

/-- … otherwise the search continues outward, to the file scope -/
theorem C11_outward (s : Scope) (outer : List Scope) (p : List String) (h : lookupPath s p = none) :
    resolve (s :: outer) p = resolve outer p := by simp [resolve, h]

theorem C11_no_scope (p : List String) : resolve [] p = none := rfl

/-- dotted names select definitions nested in messages, enums or imported files -/
theorem C11_dotted_msg (s : Scope) (n : String) (rest : List String) (id : Nat) (t : Ty) (mem : Scope)
    (h : lookup s n = some (.msg id t mem)) (hr : rest ≠ []) :
    lookupPath s (n :: rest) = lookupPath mem rest := by
  obtain ⟨r, rs, rfl⟩ := List.exists_cons_of_ne_nil hr
  simp [lookupPath, h]
theorem C11_dotted_import (s : Scope) (n : String) (rest : List String) (f pn : String) (mem : Scope)
    (h : lookup s n = some (.proto f pn mem)) (hr : rest ≠ []) :
    lookupPath s (n :: rest) = lookupPath mem rest := by
  obtain ⟨r, rs, rfl⟩ := List.exists_cons_of_ne_nil hr
  simp [lookupPath, h]

/-- only definitions that textually precede the use are visible: the context in which an item is
checked is built from the members pushed *before* it; nothing after it can influence it -/
theorem C11_earlier_only (imp) (c : Ctx) (k : Kind) (it : Item) (rest : List Item) (st : St) :
    checkItems imp c k (it :: rest) st =
      (checkItem imp { c with stack := st.members :: c.stack } k it st).bind (checkItems imp c k rest) := by
  simp [checkItems, bind, Except.bind]

/-- the resolved definition is the one whose width, members and encoding the field gets -/
theorem C11_elab_uses_resolved (c : Ctx) (line : Nat) (p : List String) :
    elabTy c line (.ref p) =
      match resolve c.stack p with
      | none => err c "undefined-type" line
      | some (.alias t) => .ok (.alias t)
      | some (.enum _ n vs _) => .ok (.enum n vs)
      | some (.msg _ t _) => .ok t
      | some _ => err c "not-a-type" line := by
  rw [elabTy]
  cases resolve c.stack p with
  | none => rfl
  | some e => cases e <;> rfl

/-! ### non-vacuity: shadowing — `Kind` inside `Outer` resolves to `Outer.Kind` (5 bits) only after it
is declared; before that, to the file-level `Kind` (3 bits) -/
def shadow : List File :=
  [{ name := "m", proto := "m", items := [
      .enum 3 "Kind" 3 [(4, "KIND_Z", 0)] [],
      .msg 6 "Outer" false [
        .field 7 "before" 1 (.ref ["Kind"]),
        .enum 8 "Kind" 5 [(9, "KIND_IN_Z", 0)] [],
        .field 11 "after" 2 (.ref ["Kind"])]] }]
def widths : List Nat :=
  match checkProgram shadow "m" false with
  | .ok e => (msgTys e).flatMap fun t => match t with
      | .msg _ fs => fs.map (·.2.nbits)
      | _ => []
  | .error _ => []
example : widths = [3, 5] := by decide +kernel

end Bp.C11
