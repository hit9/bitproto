import BpModel.Proofs.RoundTrip
import BpModel.Proofs.PyEncTree
import BpModel.Proofs.BridgePy
/-!
# C02 — Python decode(encode(v)) = v, and re-encoding reproduces the bytes

The full statement is **false** of the unchanged code for enums whose first declared member is
not 0 (KF-py-enum-default): a freshly constructed message holds that member and `decode` ORs the
wire value onto it.  `KF_py_enum_default_witness` proves the negation on a concrete input in the
model; `C02_roundtrip_partial` is the full statement under `enumZero t` (every enum's first
member is 0).  The two earlier defects (enum chunks through the IntEnum constructor, array skip)
were repaired in /repo by `fix:` commits and the model follows the repaired code.
-/
namespace Bp.C02

/-- For every well-formed type whose enums start at 0 and every in-range value: decoding the
encoder's bytes into a fresh message raises nothing and yields exactly `v`; re-encoding what was
decoded reproduces the bytes. -/
theorem C02_roundtrip_partial (t : Ty) (v : Val) (hwf : t.wf = true) (hz : enumZero t = true)
    (hv : inRange t v = true) :
    ∃ bytes v', PyRt.encode t v = .ok bytes ∧
      PyRt.decode t bytes (PyRt.fresh t) = .ok v' ∧ v' = v ∧ PyRt.encode t v' = .ok bytes := by
  have he := PyRt.encode_eq_spec t v (PyRt.shape_of_inRange t v hv)
  exact ⟨Spec.encode t v, v, he, py_roundtrip t v hwf hz hv, rfl, he⟩

/-- the wire format itself round-trips for every well-formed type (no condition on enums):
`Spec.decode (Spec.encode v) = v` -/
theorem C02_spec_roundtrip (t : Ty) (v : Val) (hwf : t.wf = true) (hv : inRange t v = true) :
    Spec.decode t (Spec.encode t v) = some v := by
  rw [Spec.decode, spec_roundtrip t v hwf hv]
  rfl

/-- signed leaves come back sign-extended: the decoder's value for an `int n` field is the signed
reading of the `n` wire bits -/
theorem C02_signed_leaf (n : Nat) (hn1 : 1 ≤ n) (hn64 : n ≤ 64) (s : List Nat) (hs : AllBytes s) (i : Nat)
    (hroom : i + n ≤ 8 * s.length) :
    PyRt.decLeaf n (.int n) 0 s i = .ok (sgn (readNat (bytesToNat s) i n) n, i + n) :=
  PyRt.decLeaf_int n hn64 s hs i hroom

theorem C02_signed_value (x : Int) (n : Nat) (hn : 1 ≤ n) (lo : -(2:Int)^(n-1) ≤ x) (hi : x < (2:Int)^(n-1)) :
    sgn (tc x n) n = x := sgn_tc x n hn lo hi

/-- the translator tie for the sign casts: `bp.int8 … bp.int64` as the source reads now -/
theorem C02_casts_tied : (∀ v, Bp.Gen.PyHelpers.int8 v = PyRt.intW 8 v) ∧ (∀ v, Bp.Gen.PyHelpers.int16 v = PyRt.intW 16 v) ∧
    (∀ v, Bp.Gen.PyHelpers.int32 v = PyRt.intW 32 v) ∧ (∀ v, Bp.Gen.PyHelpers.int64 v = PyRt.intW 64 v) :=
  ⟨Bridge.int8_eq, Bridge.int16_eq, Bridge.int32_eq, Bridge.int64_eq⟩

/-! ### KF-py-enum-default: negation by witness
`enum E : uint1 { A = 1; B = 0 }`, `message M { E e = 1 }`, value `e = B`: decodes as `A`. -/
def kfTy : Ty := .msg false [(1, .enum 1 [1, 0])]
def kfVal : Val := .msg [.int 0]
theorem KF_py_enum_default_witness :
    kfTy.wf = true ∧ inRange kfTy kfVal = true ∧ enumZero kfTy = false ∧
    PyRt.okIs (PyRt.decode kfTy (Spec.encode kfTy kfVal) (PyRt.fresh kfTy)) (.msg [.int 1]) = true := by
  decide +kernel

def exTy : Ty := (Ty.msg false [(2, .int 7), (1, .uint 3),
  (4, .array true 3 (.alias (.int 13))), (3, .msg true [(1, .enum 12 [0, 3000]), (2, .bool)]),
  (9, .array true 10 .bool), (7, .int 64)]).normalize
def exVal : Val := .msg [.int 5, .int (-3), .msg [.int 3000, .int 1], .arr [.int 1, .int (-2), .int 4095],
  .int (-9223372036854775808), .arr (List.replicate 10 (.int 1))]
example : exTy.wf = true ∧ enumZero exTy = true ∧ inRange exTy exVal = true := by decide +kernel
example : PyRt.okIs (PyRt.decode exTy (Spec.encode exTy exVal) (PyRt.fresh exTy)) exVal = true := by
  decide +kernel

end Bp.C02
