import BpModel.Model.CRt
import BpModel.Proofs.Spec
/-!
# `BpCopyBufferBits` is bit-exact and stays inside its bytes (both builds)

`step_spec`: from a destination that is clean at and above the start position, every path of the
loop body ORs the next `c ≥ 1` source bits at the destination position, writes only bytes that
contain a copied bit and reads only bytes that contain a read bit.  The body begins by moving the whole bytes of the
bit offsets into the pointers (`St.reduce`); its paths are gone through from reduced offsets (`step_spec_of_lt`), where
no division is left.  `copyLoop_spec` is the loop, `copyBits_spec` the whole function, for every `n`, `di`, `si`.
-/
namespace Bp.CRt

theorem rd_testBit (M b k q : Nat) : (rd M b k).testBit q = (decide (q < 8*k) && M.testBit (8*b + q)) := by
  unfold rd; rw [Nat.testBit_mod_two_pow, Nat.testBit_shiftRight]

theorem rd_readNat (W j m b k : Nat) (h : 8 * b + 8 * k ≤ m) :
    rd (readNat W j m) b k = readNat W (j + 8 * b) (8 * k) := by
  refine Nat.eq_of_testBit_eq fun q => ?_
  rw [rd_testBit, readNat_testBit, readNat_testBit, Nat.add_assoc]
  by_cases hq : q < 8 * k
  · rw [decide_eq_true hq, decide_eq_true (show 8 * b + q < m by omega), Bool.true_and]
  · rw [decide_eq_false hq, Bool.false_and, Bool.false_and]

theorem wr_testBit (M b k v p : Nat) :
    (wr M b k v).testBit p = if 8*b ≤ p ∧ p < 8*(b+k) then v.testBit (p - 8*b) else M.testBit p := by
  unfold wr
  rw [Nat.testBit_or, Nat.testBit_or, Nat.testBit_mod_two_pow, Nat.testBit_shiftLeft, Nat.testBit_mod_two_pow,
    testBit_shiftRight_shiftLeft]
  by_cases h : 8*b ≤ p ∧ p < 8*(b+k)
  · rw [if_pos h, decide_eq_false (Nat.not_lt.2 h.1), decide_eq_true h.1, decide_eq_true (show p - 8*b < 8*k by omega),
      decide_eq_false (Nat.not_le.2 h.2)]
    simp only [Bool.true_and, Bool.false_and, Bool.or_false, Bool.false_or]
  · -- outside the bytes the middle part has no bit, and one of the outer parts has `M`'s
    rw [if_neg h, ← Bool.and_assoc, ← Bool.decide_and, decide_eq_false (show ¬ (8*b ≤ p ∧ p - 8*b < 8*k) by omega),
      Bool.false_and, Bool.or_false, ← Bool.and_or_distrib_right, ← Bool.decide_or,
      decide_eq_true (show p < 8*b ∨ 8*(b+k) ≤ p by omega), Bool.true_and]

theorem andNotFF_testBit (v a p : Nat) :
    (andNotFF v a).testBit p = ((decide (p < a) || decide (a + 8 ≤ p)) && v.testBit p) := by
  rw [andNotFF, Nat.testBit_or, Nat.testBit_mod_two_pow, testBit_shiftRight_shiftLeft, Bool.and_or_distrib_right]

/-- C's `(w << o) & ~(0xff << (o + c))`, seen as a byte: the low `c` bits of `w` at `[o, o + c)` -/
theorem andNotFF_shiftLeft_testBit (w o c : Nat) {q : Nat} (hq : q < 8) :
    (andNotFF (w <<< o) (o + c)).testBit q = slice o c w.testBit q := by
  rw [andNotFF_testBit, decide_eq_false (Nat.not_le.2 (Nat.lt_of_lt_of_le hq (Nat.le_add_left ..))), Bool.or_false,
    Nat.testBit_shiftLeft, Bool.and_left_comm, slice, Bool.and_assoc]

/-- the `k`-byte word at byte `b`, shifted down by `o`: the run of the `8k - o` bits from bit `8b + o` on -/
theorem rd_shiftRight_testBit (M b k o q : Nat) :
    (rd M b k >>> o).testBit q = slice 0 (8 * k - o) (fun r => M.testBit (8 * b + o + r)) q := by
  rw [Nat.testBit_shiftRight, rd_testBit, slice_at_zero, Nat.add_assoc]
  exact congrArg (· && _) (decide_eq_decide.2 Nat.lt_sub_iff_add_lt'.symm)

/-- overwriting `k` bytes at byte `b` with a value that holds the old bits and the run `src` at `[o, o + c)` (positions
counted from byte `b`) places the run at bit `8b + o` -/
theorem wr_placed {D b k v o c : Nat} {src : Nat → Bool} (hc : o + c ≤ 8 * k)
    (hv : ∀ q, q < 8 * k → v.testBit q = (D.testBit (8 * b + q) || slice o c src q)) :
    Placed D.testBit (wr D b k v).testBit (8 * b + o) c src := by
  intro p
  rw [wr_testBit]
  by_cases h : 8 * b ≤ p ∧ p < 8 * (b + k)
  · rw [if_pos h, hv _ (by omega), slice_sub h.1, Nat.add_sub_cancel' h.1]
  · rw [if_neg h, slice_outside (by omega), Bool.or_false]

/-- one iteration handles `c ≥ 1` of the remaining bits: the run of `c` source bits from `s.SI` is placed at `s.DI`
(`Placed`, spelled out), the cursors advance by `c`, and `whi` / `rhi` stay within the bytes that hold the run -/
def StepOk (S : Nat) (s t : St) : Prop :=
  ∃ c, 0 < c ∧ c ≤ s.n ∧ t.n = s.n - c ∧ t.DI = s.DI + c ∧ t.SI = s.SI + c ∧
    t.whi ≤ max s.whi ((s.DI + c + 7) / 8) ∧ t.rhi ≤ max s.rhi ((s.SI + c + 7) / 8) ∧
    (∀ p, t.D.testBit p =
      (s.D.testBit p || (decide (s.DI ≤ p) && decide (p < s.DI + c) && S.testBit (s.SI + (p - s.DI)))))

theorem le_max_of_le {x w a b : Nat} (h : x ≤ max w a) (hab : a ≤ b) : x ≤ max w b :=
  Nat.le_trans h (Nat.max_le.2 ⟨Nat.le_max_left .., Nat.le_trans hab (Nat.le_max_right ..)⟩)

/-- the bookkeeping of `whi` / `rhi` (one more than the highest byte written / read so far): `k` bytes from byte `p`
on, when the `c` bits from bit offset `o` reach into the last of them -/
theorem hi_of_run {x w p o c k : Nat} (h : x ≤ max w (p + k)) (hk : 8 * k ≤ o + c + 7) :
    x ≤ max w ((8 * p + o + c + 7) / 8) :=
  le_max_of_le h ((Nat.le_div_iff_mul_le (by decide)).2 (by omega))

/-- one iteration from reduced bit offsets: a path that handles `c` bits, reaching `k` bytes from either pointer on, and
places the run -/
theorem StepOk.of_run {S n D dp sp di si whi rhi c D' whi' rhi' : Nat} (k : Nat) (hc0 : 0 < c) (hcn : c ≤ n)
    (hw : whi' ≤ max whi (dp + k)) (hkd : 8 * k ≤ di + c + 7)
    (hr : rhi' ≤ max rhi (sp + k)) (hks : 8 * k ≤ si + c + 7)
    (hD : Placed D.testBit D'.testBit (8 * dp + di) c (fun k => S.testBit (8 * sp + si + k))) :
    StepOk S ⟨n, D, dp, sp, di, si, whi, rhi⟩ ⟨n - c, D', dp, sp, di + c, si + c, whi', rhi'⟩ :=
  ⟨c, hc0, hcn, rfl, (Nat.add_assoc _ _ _).symm, (Nat.add_assoc _ _ _).symm, hi_of_run hw hkd, hi_of_run hr hks, hD⟩

/-- the state with the whole bytes of the two bit offsets moved into the pointers, as the loop body begins by doing -/
def St.reduce (s : St) : St :=
  { s with dp := s.dp + s.di / 8, sp := s.sp + s.si / 8, di := s.di % 8, si := s.si % 8 }

theorem St.reduce_DI (s : St) : s.reduce.DI = s.DI := by
  simp only [St.reduce, St.DI, Nat.mul_add, Nat.add_assoc, Nat.div_add_mod]

theorem St.reduce_SI (s : St) : s.reduce.SI = s.SI := by
  simp only [St.reduce, St.SI, Nat.mul_add, Nat.add_assoc, Nat.div_add_mod]

theorem step_reduce (be : Bool) (S : Nat) (s : St) : step be S s = step be S s.reduce := by
  unfold step St.reduce
  simp only [Nat.mod_mod, Nat.mod_div_self, Nat.add_zero]

theorem step_spec_of_lt (be : Bool) (S : Nat) (s : St) (hdi : s.di < 8) (hsi : s.si < 8) (hn : 0 < s.n)
    (hz : ∀ p, s.DI ≤ p → s.D.testBit p = false) : StepOk S s (step be S s) := by
  obtain ⟨n, D, dp, sp, di, si, whi, rhi⟩ := s
  simp only [St.DI] at hdi hsi hn hz
  unfold step
  simp only [Nat.div_eq_of_lt hdi, Nat.mod_eq_of_lt hdi, Nat.div_eq_of_lt hsi, Nat.mod_eq_of_lt hsi, Nat.add_zero]
  -- a path that ORs into the byte at the destination pointer the source byte, moved from offset `si` to offset `di` and
  -- cut off above the `c` bits (at `di = 0` the shift is not written)
  have orByte : ∀ c v, v = andNotFF ((rd S sp 1 >>> si) <<< di) (di + c) → 0 < c → c ≤ n → c ≤ 8 - di → c ≤ 8 - si →
      StepOk S ⟨n, D, dp, sp, di, si, whi, rhi⟩
        ⟨n - c, wr D dp 1 (rd D dp 1 ||| v), dp, sp, di + c, si + c, max whi (dp + 1), max rhi (sp + 1)⟩ := by
    rintro c _ rfl hc0 hcn hcd hcs
    refine .of_run 1 hc0 hcn (Nat.le_refl _) (by omega) (Nat.le_refl _) (by omega) (wr_placed (by omega) fun q hq => ?_)
    rw [Nat.testBit_or, rd_testBit, decide_eq_true hq, Bool.true_and, andNotFF_shiftLeft_testBit _ _ _ hq]
    refine congrArg _ (slice_congr fun r hr => ?_)
    rw [rd_shiftRight_testBit, slice_at_zero, decide_eq_true (by omega), Bool.true_and]
  by_cases hd0 : di = 0
  · subst hd0
    rw [if_pos rfl]
    -- the destination is byte aligned and `8k` or more bits reach to the end of the source byte(s): `k` bytes are
    -- assigned (they are still zero); `v` is the source word shifted down, possibly masked to the bytes it fills anyway
    have assign : ∀ k v, 0 < k → 8 * k ≤ n + si → (∀ q, q < 8 * k → v.testBit q = (rd S sp k >>> si).testBit q) →
        StepOk S ⟨n, D, dp, sp, 0, si, whi, rhi⟩
          ⟨n - (8 * k - si), wr D dp k v, dp, sp, 0 + (8 * k - si), si + (8 * k - si), max whi (dp + k),
            max rhi (sp + k)⟩ := by
      intro k v hk0 hk hv
      refine .of_run k (by omega) (by omega) (Nat.le_refl _) (by omega) (Nat.le_refl _) (by omega)
        (wr_placed (by omega) fun q hq => ?_)
      rw [hv q hq, rd_shiftRight_testBit, hz _ (Nat.add_le_add_left (Nat.zero_le q) _), Bool.false_or]
    by_cases h32 : (!be && decide (n + si ≥ 32)) = true
    · rw [if_pos h32]
      exact assign 4 _ (by decide) (of_decide_eq_true (Bool.and_eq_true_iff.1 h32).2) fun _ _ => rfl
    rw [if_neg h32]
    by_cases h16 : (!be && decide (n + si ≥ 16)) = true
    · rw [if_pos h16]
      exact assign 2 _ (by decide) (of_decide_eq_true (Bool.and_eq_true_iff.1 h16).2) fun _ _ => rfl
    rw [if_neg h16]
    by_cases h8 : n + si ≥ 8
    · rw [if_pos h8]
      refine assign 1 _ (by decide) h8 fun q hq => ?_
      rw [Nat.testBit_and, show (255:Nat) = 2^8 - 1 by decide, Nat.testBit_two_pow_sub_one,
        decide_eq_true (show q < 8 from hq), Bool.and_true]
    · -- fewer than 8 bits left, all in the source byte
      rw [if_neg h8, Nat.min_eq_right (by omega)]
      exact orByte n _ (by rw [Nat.zero_add, Nat.shiftLeft_zero]) hn (Nat.le_refl _) (by omega) (by omega)
  · rw [if_neg hd0]
    obtain ⟨c, hc, hc0, hcn, hcd, hcs⟩ :
        ∃ c, min (8 - di) (min (8 - si) n) = c ∧ 0 < c ∧ c ≤ n ∧ c ≤ 8 - di ∧ c ≤ 8 - si :=
      ⟨_, rfl, Nat.lt_min.2 ⟨Nat.sub_pos_of_lt hdi, Nat.lt_min.2 ⟨Nat.sub_pos_of_lt hsi, hn⟩⟩,
        Nat.le_trans (Nat.min_le_right _ _) (Nat.min_le_right _ _), Nat.min_le_left _ _,
        Nat.le_trans (Nat.min_le_right _ _) (Nat.min_le_left _ _)⟩
    rw [hc]
    by_cases hch : rd S sp 1 = 0
    · -- source byte is zero: nothing written, and the copied source bits are all zero
      rw [if_neg (fun h => h hch)]
      refine .of_run 1 hc0 hcn (Nat.le_max_left _ _) (by omega) (Nat.le_refl _) (by omega)
        (Placed.of_src_false fun k hk => ?_)
      have := rd_testBit S sp 1 (si + k)
      rw [hch, Nat.zero_testBit, decide_eq_true (by omega), Bool.true_and, ← Nat.add_assoc] at this
      exact this.symm
    · rw [if_pos hch]
      exact orByte c _ rfl hc0 hcn hcd hcs

theorem step_spec (be : Bool) (S : Nat) (s : St) (hn : 0 < s.n)
    (hz : ∀ p, s.DI ≤ p → s.D.testBit p = false) : StepOk S s (step be S s) := by
  have h := step_spec_of_lt be S s.reduce (Nat.mod_lt _ (by decide)) (Nat.mod_lt _ (by decide)) hn
    (by rwa [St.reduce_DI])
  unfold StepOk at h ⊢
  rwa [← step_reduce, St.reduce_DI, St.reduce_SI] at h

/-- the bound of the rest of the loop on top of the bound of its first iteration -/
theorem hi_step {x w w' d c n : Nat} (h1 : x ≤ max w' ((d + n + 7) / 8)) (h2 : w' ≤ max w ((d + c + 7) / 8))
    (hcn : c ≤ n) : x ≤ max w ((d + n + 7) / 8) :=
  have := le_max_of_le h2 (Nat.div_le_div_right (c := 8) (Nat.add_le_add_right (Nat.add_le_add_left hcn d) 7))
  Nat.le_trans h1 (Nat.max_le.2 ⟨this, Nat.le_max_right ..⟩)

theorem copyLoop_spec (be : Bool) (S : Nat) : ∀ (fuel : Nat) (s : St), s.n ≤ fuel →
    (∀ p, s.DI ≤ p → s.D.testBit p = false) →
    (copyLoop be S fuel s).n = 0 ∧
    (copyLoop be S fuel s).whi ≤ max s.whi ((s.DI + s.n + 7) / 8) ∧
    (copyLoop be S fuel s).rhi ≤ max s.rhi ((s.SI + s.n + 7) / 8) ∧
    ∀ p, (copyLoop be S fuel s).D.testBit p =
      (s.D.testBit p || (decide (s.DI ≤ p) && decide (p < s.DI + s.n) && S.testBit (s.SI + (p - s.DI)))) := by
  intro fuel
  induction fuel with
  | zero =>
    intro s hf _
    have h0 : s.n = 0 := by omega
    refine ⟨h0, Nat.le_max_left _ _, Nat.le_max_left _ _, ?_⟩
    rw [h0]; exact Placed.zero s.D.testBit s.DI fun k => S.testBit (s.SI + k)
  | succ fuel ih =>
    intro s hf hz
    unfold copyLoop
    by_cases hn : s.n = 0
    · rw [if_pos hn]
      refine ⟨hn, Nat.le_max_left _ _, Nat.le_max_left _ _, ?_⟩
      rw [hn]; exact Placed.zero s.D.testBit s.DI fun k => S.testBit (s.SI + k)
    · rw [if_neg hn]
      obtain ⟨c, hc0, hcn, htn, htDI, htSI, hw, hr, hbits⟩ := step_spec be S s (Nat.pos_of_ne_zero hn) hz
      have hsum : s.n = c + (step be S s).n := by rw [htn, Nat.add_sub_cancel' hcn]
      obtain ⟨ih1, ihw, ihr, ih2⟩ := ih (step be S s) (by omega) fun p hp =>
        Placed.clean (src := fun k => S.testBit (s.SI + k)) hbits hz (htDI ▸ hp)
      rw [htDI, Nat.add_assoc s.DI, ← hsum] at ihw
      rw [htSI, Nat.add_assoc s.SI, ← hsum] at ihr
      exact ⟨ih1, hi_step ihw hw hcn, hi_step ihr hr hcn,
        Placed.trans (src := fun k => S.testBit (s.SI + k)) (src' := fun k => S.testBit ((step be S s).SI + k))
          hbits ih2 htDI hsum fun k => by rw [htSI, Nat.add_assoc]⟩

theorem copyBits_spec (be : Bool) (n D S di si : Nat) (hz : ∀ p, di ≤ p → D.testBit p = false) :
    (copyBits be n D S di si).whi ≤ (di + n + 7) / 8 ∧
    (copyBits be n D S di si).rhi ≤ (si + n + 7) / 8 ∧
    Placed D.testBit (copyBits be n D S di si).D.testBit di n (fun k => S.testBit (si + k)) := by
  have := copyLoop_spec be S n { n, D, dp := 0, sp := 0, di, si, whi := 0, rhi := 0 } (Nat.le_refl _)
    (by simpa [St.DI] using hz)
  simp only [St.DI, St.SI, Nat.mul_zero, Nat.zero_add, Nat.zero_max] at this
  exact ⟨this.2.1, this.2.2.1, this.2.2.2⟩

theorem copyBits_read (be : Bool) (n W i : Nat) :
    (copyBits be n 0 W 0 i).D = readNat W i n ∧ (copyBits be n 0 W 0 i).whi ≤ (n + 7) / 8 ∧
      (copyBits be n 0 W 0 i).rhi ≤ (i + n + 7) / 8 := by
  obtain ⟨hw, hr, hb⟩ := copyBits_spec be n 0 W 0 i fun p _ => Nat.zero_testBit p
  exact ⟨eq_readNat_of_placed hb, by simpa using hw, hr⟩

theorem copyBits_wrote (be : Bool) {n i : Nat} {s : List Nat} (S : Nat) (hroom : i + n ≤ 8 * s.length)
    (hz : ∀ p, i ≤ p → (bytesToNat s).testBit p = false) :
    (copyBits be n (bytesToNat s) S i 0).whi ≤ s.length ∧ (copyBits be n (bytesToNat s) S i 0).rhi ≤ (n + 7) / 8 ∧
      Wrote s (natToBytes s.length (copyBits be n (bytesToNat s) S i 0).D) i n S.testBit := by
  obtain ⟨hw, hr, hb⟩ := copyBits_spec be n (bytesToNat s) S i 0 hz
  have hlt : (copyBits be n (bytesToNat s) S i 0).D < 2 ^ (8 * s.length) :=
    Nat.lt_pow_two_of_testBit _ fun p hp => hb.clean hz (Nat.le_trans hroom hp)
  refine ⟨Nat.le_trans hw (bytes_le_of_bits hroom), by simpa using hr, natToBytes_allBytes _ _, natToBytes_length _ _,
    fun p => ?_⟩
  rw [bytesToNat_natToBytes, Nat.mod_eq_of_lt hlt, hb p]
  exact congrArg _ (slice_congr fun k _ => by rw [Nat.zero_add])

end Bp.CRt
