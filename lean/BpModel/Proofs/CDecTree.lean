import BpModel.Proofs.CEncTree
import BpModel.Proofs.RoundTrip
/-!
# The C decoder refines the prefix-honouring specification decoder (both builds, batch path too)

`cdec_refines`: whenever `Spec.dec` succeeds on the wire (all reads inside the buffer), the
generated `Decode<Msg>` run on a zeroed struct leaves exactly those values in the cells
(signed ones sign-extended to the storage width) and the same cursor; no `.oob`.
-/
namespace Bp.CRt
open PyRt

theorem cdecAhead_ok (be : Bool) (s : List Nat) (i : Nat) (hroom : i + 16 ≤ 8 * s.length) :
    decAhead be s i = .ok (readNat (bytesToNat s) i 16, i + 16) := by
  unfold decAhead
  rw [decLeafVal_unsigned be 16 (by decide) s i hroom]
  simp

theorem cdecArr_refines {f : Nat → Except Exc (Val × Nat)} {d : Nat → Option (Val × Nat)}
    (h : ∀ j, Refines (d j) (f j)) : ∀ (k i : Nat), Refines (Bp.decArrWith d k i) (CRt.decArrWith f k i)
  | 0, _ => .pure _
  | k+1, i => .cons (h i) (cdecArr_refines h k)

theorem spec_dec_intLike {e : Ty} {n : Nat} (h : intLikeBits e = some n) (W L j : Nat) :
    Spec.dec e W L j = (readB W L j n).map fun u => (leafVal (isSignedLike e) n u, j + n) := by
  obtain ⟨t, he, ht, rfl, hs⟩ := intLike_cases h
  rw [hs, ← Spec.dec_scalar ht]
  rcases he with rfl | rfl <;> rfl

theorem spec_arr_intLike {signed : Bool} {n W L : Nat} {d : Nat → Option (Val × Nat)}
    (hd : ∀ j, d j = (readB W L j n).map fun u => (leafVal signed n u, j + n)) (cap j : Nat) (r : List Val × Nat)
    (h : Bp.decArrWith d cap j = some r) :
    (cap = 0 ∨ j + n * cap ≤ L) ∧
      r = ((List.range cap).map (fun k => leafVal signed n (readNat W (j + n * k) n)), j + n * cap) := by
  induction cap generalizing j r with
  | zero => cases h; exact ⟨.inl rfl, rfl⟩
  | succ cap ih =>
    rw [Bp.decArrWith, hd j] at h
    cases h1 : readB W L j n with
    | none => rw [h1] at h; cases h
    | some u =>
      obtain ⟨hroom, rfl⟩ := readB_some h1
      cases h2 : Bp.decArrWith d cap (j + n) with
      | none => simp [h1, h2] at h
      | some q =>
        obtain ⟨hb, rfl⟩ := ih (j + n) q h2
        simp only [h1, h2, Option.map_some] at h; cases h
        refine ⟨.inr ?_, ?_⟩
        · rw [Nat.mul_succ, Nat.add_comm _ n, ← Nat.add_assoc]
          -- the room of this element if it is the last (`n * 0` computes away), else that of the rest
          rcases hb with rfl | hb <;> assumption
        · -- element `k + 1` of the array is element `k` of the rest
          simp only [List.range_succ_eq_map, List.map_cons, List.map_map, Function.comp_def, Nat.mul_zero,
            Nat.add_zero, Nat.mul_succ, Nat.add_assoc, Nat.add_comm n]

theorem decBatch_ok (signed : Bool) {n : Nat} (hstd : n = 8 ∨ n = 16 ∨ n = 32 ∨ n = 64) {cap : Nat} {s : List Nat}
    {j : Nat} (hroom : j + n * cap ≤ 8 * s.length) :
    decBatch signed n cap s j =
      .ok ((List.range cap).map (fun k => leafVal signed n (readNat (bytesToNat s) (j + n * k) n)), j + n * cap) := by
  have hn := storageSize_std n hstd
  obtain ⟨hD, hw, hr⟩ := copyBits_read false (n * cap) (bytesToNat s) j
  have hbits := cells_bits hstd
  have hlt : readNat (bytesToNat s) j (n * cap) < 2^(8 * (storageSize n * cap)) := hbits cap ▸ readNat_lt _ _ _
  have h1 := Nat.le_trans hr (bytes_le_of_bits hroom)
  have h2 := Nat.le_trans hw (bytes_le_of_bits (Nat.le_of_eq (hbits cap).symm))
  simp only [decBatch, decBase, Bool.false_eq_true, if_false, bytesToNat_zeros, zeros_length, hD, h1, h2,
    and_self, if_true, bytesToNat_natToBytes, Nat.mod_eq_of_lt hlt]
  refine congrArg (fun l => Except.ok (l, _)) (List.map_congr_left fun k hk => ?_)
  -- the cell of element `k` holds wire bits `[j + n·k, j + n·k + n)`
  have : 8 * (storageSize n * k) + 8 * storageSize n ≤ n * cap := by
    rw [hbits, ← hn, ← Nat.mul_succ]; exact Nat.mul_le_mul_left _ (List.mem_range.mp hk)
  -- at a standard width the cell is as wide as the element, and `signFix` leaves it as it is
  rw [rd_readNat _ _ _ _ _ this, hbits, ← hn, leafVal, signFix, if_pos hstd]

mutual
theorem cdec_refines (be : Bool) : ∀ (t : Ty) (s : List Nat) (i : Nat), AllBytes s → t.wf = true →
    Refines (Spec.dec t (bytesToNat s) (8 * s.length) i) (dec be t s i)
  | .bool | .byte | .uint _ | .enum _ _ => fun s i _ hwf =>
    .leaf (decLeafVal_unsigned be _ (wf_scalar rfl hwf).1 s i)
  | .int n => fun s i _ hwf =>
    .leaf (decLeafVal_signed be n ((wf_scalar rfl hwf).2 rfl) (wf_scalar rfl hwf).1 s i)
  | .alias t => fun s i hs hwf => cdec_refines be t s i hs (wf_alias hwf)
  | .array ext cap e => fun s i hs hwf => by
    -- the elements: one batch copy, or the loop
    have body : ∀ j, Refines (Bp.decArrWith (Spec.dec e (bytesToNat s) (8 * s.length)) cap j)
        (if useBatch be e then decBatch (isSignedLike e) e.nbits cap s j
          else CRt.decArrWith (fun j => dec be e s j) cap j) := by
      intro j
      by_cases hb : useBatch be e = true
      · obtain ⟨_, n, hil, hstd⟩ := useBatch_cases hb
        intro q hq
        obtain ⟨hroom, rfl⟩ := spec_arr_intLike (spec_dec_intLike hil _ _) cap j q hq
        rw [if_pos hb, nbits_intLike hil, decBatch_ok _ hstd (hroom.resolve_left (Nat.ne_of_gt (wf_array hwf).1))]
      · rw [if_neg hb]
        exact cdecArr_refines (fun j => cdec_refines be e s j hs (wf_array hwf).2.2) cap j
    cases ext
    · apply Refines.node (body i)
    · apply Refines.ahead (cdecAhead_ok be s i) body
  | .msg ext fs => fun s i hs hwf => by
    have body := fun j r h => cdecFields_refines be fs s j r hs (wf_msg hwf).2 h
    cases ext
    · apply Refines.node (body i)
    · apply Refines.ahead (cdecAhead_ok be s i) body
theorem cdecFields_refines (be : Bool) : ∀ (fs : List (Nat × Ty)) (s : List Nat) (i : Nat) (r : List Val × Nat),
    AllBytes s → wfFields fs = true → Spec.decFields fs (bytesToNat s) (8 * s.length) i = some r →
    decFields be fs s i = .ok r
  | [] => fun _ _ r _ _ hd => Refines.pure _ r hd
  | (_, t) :: fs => fun s i r hs hwf hd =>
    Refines.cons (cdec_refines be t s i hs (wfFields_cons hwf).1)
      (fun j r h => cdecFields_refines be fs s j r hs (wfFields_cons hwf).2 h) r hd
end

/-- the C decoder of the older schema on the newer schema's bytes (C05) — and, with `S1 = S2`,
the plain decode statement of C03 -/
theorem c_dec_evo (be : Bool) {S1 S2 : Ty} (hE : Evo S1 S2) (v2 : Val) (hwf1 : S1.wf = true)
    (hwf2 : S2.wf = true) (hr : inRange S2 v2 = true) :
    decode be S1 (Spec.encode S2 v2) = .ok (Spec.proj S1 v2) := by
  have h1 := spec_dec_evo hE v2 hwf2 hr
  simp only [decode, cdec_refines be S1 (Spec.encode S2 v2) 0 (natToBytes_allBytes _ _) hwf1 _ h1]

theorem c_roundtrip (be : Bool) (t : Ty) (v : Val) (hwf : t.wf = true) (hr : inRange t v = true) :
    decode be t (Spec.encode t v) = .ok v := by
  have := c_dec_evo be (Evo.refl t hwf) v hwf hwf hr
  rwa [proj_self t v (shape_of_inRange t v hr)] at this

end Bp.CRt
