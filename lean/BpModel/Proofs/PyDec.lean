import BpModel.Model.PyRt
import BpModel.Proofs.Spec
import BpModel.Proofs.Helpers
/-!
# The Python leaf decoder reads exactly wire bits `[i, i+n)`

`procBaseDec` for the three leaf kinds of the generated `bp_set_byte`:
unsigned (`|=` of `int(b) << lshift`), signed (`|=` of `bp.intW(...)`, then `bp_process_int`) and
bool (`= bool(b)`): what the loop ORs onto any field (`procBaseDec_spec`), and what it leaves in a zero field
(`decLeaf_*`).
-/
namespace Bp.PyRt

/-- the value handed to `bp_set_byte`, shifted to its place in the field: wire bits `i, …, i+c-1` on field
bits `j, …, j+c-1` -/
theorem decD_testBit (s : List Nat) (hs : AllBytes s) (i j c k : Nat) (hi : i / 8 < s.length) (hc2 : c ≤ 8 - i % 8) :
    ((smartShift s[i / 8] (((i % 8 : Nat) : Int) - ((j % 8 : Nat) : Int)) &&& getMask (j % 8) c)
        <<< (8 * (j / 8))).testBit k = slice j c (fun q => (bytesToNat s).testBit (i + q)) k := by
  rw [chunk_testBit]
  refine slice_congr fun q hq => ?_
  rw [getElem_testBit s hs _ hi, decide_eq_true (by omega), Bool.true_and, ← Nat.add_assoc, Nat.div_add_mod]

theorem decD_lt (b i j c : Nat) (hc1 : c ≤ 8 - j % 8) :
    (smartShift b (((i % 8 : Nat) : Int) - ((j % 8 : Nat) : Int)) &&& getMask (j % 8) c) < 256 :=
  getMask_and_lt _ _ _ (by omega)

theorem decLeaf_bool (s : List Nat) (hs : AllBytes s) (cur : Int) (i : Nat) (hroom : i + 1 ≤ 8 * s.length) :
    decLeaf 1 .bool cur s i = .ok ((readNat (bytesToNat s) i 1 : Nat), i + 1) := by
  have hi : i / 8 < s.length := div8_lt_of_room Nat.one_pos hroom
  have hget : s[i / 8]? = some s[i / 8] := List.getElem?_eq_getElem hi
  have hc : nbitsToCopy i 0 1 = 1 :=
    have ⟨h0, h1, _⟩ := nbitsToCopy_spec i Nat.zero_lt_one
    Nat.le_antisymm h1 h0
  -- the chunk value is the single wire bit
  have hval : (smartShift s[i / 8] (((i % 8 : Nat) : Int) - ((0 % 8 : Nat) : Int)) &&& getMask (0 % 8) 1) =
      readNat (bytesToNat s) i 1 :=
    eq_readNat_of_placed fun k => by
      rw [Nat.zero_testBit, Bool.false_or, ← decD_testBit s hs i 0 1 k hi (by omega), Nat.zero_div, Nat.mul_zero,
        Nat.shiftLeft_zero]
  have h01 : readNat (bytesToNat s) i 1 < 2 := readNat_lt _ _ 1
  simp only [decLeaf, procBaseDec, hc, decChunk, hget, setByte, Nat.zero_lt_one, if_true, hval]
  by_cases hz : readNat (bytesToNat s) i 1 = 0
  · simp [hz]
  · have : readNat (bytesToNat s) i 1 = 1 := by omega
    simp [this]

theorem intW_eq_sgn (W v : Nat) (hW : 0 < W) (hv : v < 2^W) : intW W (v : Int) = sgn v W := by
  unfold intW sgn
  have hcast : ((v : Int) < (2:Int)^(W-1)) ↔ v < 2^(W-1) := PyInt.two_pow_cast _ ▸ Int.ofNat_lt
  by_cases hlt : v < 2^(W-1)
  · rw [if_pos (hcast.mpr hlt), Nat.testBit_lt_two_pow hlt]; rfl
  · rw [if_neg (fun h => hlt (hcast.mp h)),
      Nat.testBit_of_two_pow_le_and_two_pow_add_one_gt (Nat.le_of_not_lt hlt) (by rwa [Nat.sub_add_cancel hW])]; rfl

/-- what `bp_set_byte` of an integer kind makes of the chunk it ORs into the field: nothing for `uint`, the wrap of
`bp.intW` at the storage width for `int` -/
def Kind.signExt : Kind → (Nat → Bool) → Nat → Bool
  | .int m => sext (storageBits m)
  | _ => fun f => f

theorem Kind.signExt_or (kd : Kind) (f g : Nat → Bool) (p : Nat) :
    kd.signExt (fun q => f q || g q) p = (kd.signExt f p || kd.signExt g p) := by
  cases kd <;> simp only [Kind.signExt, sext, Bool.and_or_distrib_left]
  ac_rfl

theorem Kind.signExt_congr (kd : Kind) {f g : Nat → Bool} (h : ∀ q, f q = g q) (p : Nat) :
    kd.signExt f p = kd.signExt g p := by
  rw [funext h]

/-- an integer kind, and for `int` a leaf of `n` bits that fits its storage width -/
def Kind.Fits (n : Nat) : Kind → Prop
  | .uint => True
  | .int m => n ≤ storageBits m ∧ 0 < storageBits m
  | .bool => False

theorem tb_setByte {n : Nat} {kd : Kind} (hk : kd.Fits n) (cur : Int) {l d : Nat} {f : Nat → Bool}
    (hf : ∀ p, (d <<< l).testBit p = f p) (hd : ∀ p, n ≤ p → f p = false) (p : Nat) :
    PyInt.tb (setByte kd cur l d) p = (PyInt.tb cur p || kd.signExt f p) := by
  obtain rfl : (d <<< l).testBit = f := funext hf
  cases kd with
  | bool => exact hk.elim
  | uint => rw [setByte, PyInt.tb_or, PyInt.shl_ofNat, PyInt.tb_ofNat]; rfl
  | int m =>
    have hlt : d <<< l < 2 ^ storageBits m :=
      Nat.lt_pow_two_of_testBit _ fun p hp => hd p (Nat.le_trans hk.1 hp)
    rw [setByte, PyInt.tb_or, PyInt.shl_ofNat, intW_eq_sgn _ _ hk.2 hlt, tb_sgn _ _ hlt]; rfl

theorem procBaseDec_spec (n : Nat) {kd : Kind} (hk : kd.Fits n) (s : List Nat) (hs : AllBytes s) :
    ∀ (fuel i j : Nat), n - j ≤ fuel → ∀ (cur : Int), i + (n - j) ≤ 8 * s.length →
    ∃ cur', procBaseDec n kd s fuel cur i j = .ok (cur', i + (n - j)) ∧
      ∀ p, PyInt.tb cur' p =
        (PyInt.tb cur p || kd.signExt (slice j (n - j) fun q => (bytesToNat s).testBit (i + q)) p) := by
  refine chunk_induction n ?_ ?_
  · intro fuel i j hj cur _
    rw [Nat.sub_eq_zero_of_le hj]
    refine ⟨cur, by cases fuel <;> simp [procBaseDec, Nat.not_lt.2 hj], fun p => ?_⟩
    rw [kd.signExt_congr (slice_empty j _)]
    cases kd <;> simp [Kind.signExt, sext]
  · intro fuel i j c hlt hc _ hsum _ hc2 ih cur hroom
    rw [Nat.add_assoc, ← hsum] at ih
    have hi : i / 8 < s.length := div8_lt_of_room (Nat.sub_pos_of_lt hlt) hroom
    have hd := fun p => Nat.mul_comm 8 (j / 8) ▸ decD_testBit s hs i j c p hi hc2
    simp only [procBaseDec, hlt, if_true, hc, decChunk, List.getElem?_eq_getElem hi]
    obtain ⟨cur', e, b⟩ := ih _ hroom
    refine ⟨cur', e, fun p => ?_⟩
    have hjc : j + c ≤ n := Nat.add_le_of_le_sub' (Nat.le_of_lt hlt) (hsum ▸ Nat.le_add_right c _)
    rw [b p, tb_setByte hk cur hd (fun p hp => slice_of_ge (Nat.le_trans hjc hp)), Bool.or_assoc, ← kd.signExt_or]
    refine congrArg _ (kd.signExt_congr (fun q => ?_) p)
    rw [hsum, slice_add]
    exact congrArg _ (slice_congr fun k _ => by rw [Nat.add_assoc])

theorem procBaseDec_zero (n : Nat) {kd : Kind} (hk : kd.Fits n) (s : List Nat) (hs : AllBytes s) (i : Nat)
    (hroom : i + n ≤ 8 * s.length) :
    ∃ cur', procBaseDec n kd s n 0 i 0 = .ok (cur', i + n) ∧
      ∀ p, PyInt.tb cur' p = kd.signExt (fun q => decide (q < n) && (bytesToNat s).testBit (i + q)) p := by
  obtain ⟨cur', e, b⟩ := procBaseDec_spec n hk s hs n i 0 (Nat.sub_le n 0) 0 hroom
  refine ⟨cur', e, fun p => ?_⟩
  rw [b p, show PyInt.tb 0 p = false from Nat.zero_testBit p, Bool.false_or]
  exact kd.signExt_congr (slice_at_zero n _) p

theorem decLeaf_uint (n : Nat) (s : List Nat) (hs : AllBytes s) (i : Nat) (hroom : i + n ≤ 8 * s.length) :
    decLeaf n .uint 0 s i = .ok ((readNat (bytesToNat s) i n : Nat), i + n) := by
  obtain ⟨cur', e, b⟩ := procBaseDec_zero n (kd := .uint) trivial s hs i hroom
  have : cur' = (readNat (bytesToNat s) i n : Nat) :=
    PyInt.eq_of_tb_eq _ _ fun k => by rw [b k, PyInt.tb_ofNat, readNat_testBit]; rfl
  simp only [decLeaf, e, this]

/-- `bp_process_int` extends the sign from bit `n - 1` for the widths that `bp.intW` does not wrap -/
theorem tb_processInt (n : Nat) (x : Int) (h : ¬ (n = 8 ∨ n = 16 ∨ n = 32 ∨ n = 64)) (k : Nat) :
    PyInt.tb (processInt n x) k = sext n (PyInt.tb x) k := by
  rw [processInt, if_neg h, PyInt.and_one, PyInt.tb_shr, Nat.add_zero, sext]
  cases PyInt.tb x (n - 1) <;> simp [PyInt.tb_or, PyInt.tb_neg_two_pow]

theorem decLeaf_int (n : Nat) (hn64 : n ≤ 64) (s : List Nat) (hs : AllBytes s) (i : Nat)
    (hroom : i + n ≤ 8 * s.length) :
    decLeaf n (.int n) 0 s i = .ok (sgn (readNat (bytesToNat s) i n) n, i + n) := by
  obtain ⟨cur', e, b⟩ := procBaseDec_zero n (kd := .int n) (storageBits_ge n hn64) s hs i hroom
  have hsb := storageBits_eq_self n
  have : processInt n cur' = sgn (readNat (bytesToNat s) i n) n := by
    refine PyInt.eq_of_tb_eq _ _ fun k => ?_
    rw [tb_sgn _ n (readNat_lt _ _ _), funext (readNat_testBit (bytesToNat s) i n)]
    by_cases hstd : n = 8 ∨ n = 16 ∨ n = 32 ∨ n = 64
    · -- the wrap of `bp.intW` has extended the sign already
      rw [processInt, if_pos hstd, b k, Kind.signExt, hsb.mpr hstd]
    · -- no wrap below the storage width: `bp_process_int` extends the sign
      have hlt : ¬ storageBits n - 1 < n := fun h => hstd (hsb.mp (by have := storageBits_ge n hn64; omega))
      rw [tb_processInt n cur' hstd, funext b, Kind.signExt]
      exact congrArg (sext n · k) (funext (sext_of_false (by simp [hlt])))
  simp only [decLeaf, e, this]

end Bp.PyRt
