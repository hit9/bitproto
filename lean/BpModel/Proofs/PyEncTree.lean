import BpModel.Proofs.PyEnc
/-!
# The encoder of every type tree writes `Spec.bits`, and `encode = Spec.encode`

At an array or a message `enc` unfolds to "prefix, then the body", which is the action
`Writes.seq` speaks of; the tree theorems use that by definitional unfolding.
-/
namespace Bp.PyRt

mutual
theorem writes_enc : ∀ (t : Ty) (v : Val), shape t v = true → Writes (enc t v) (Spec.bits t v)
  | .bool | .byte | .uint _ | .int _ | .enum _ _ => fun v h => by
      obtain ⟨x, rfl⟩ := shape_scalar rfl h
      exact writes_leaf _ x
  | .alias t => writes_enc t
  | .array ext _ e => fun v h => by
      obtain ⟨vs, rfl, rfl, hall⟩ := shape_array h
      apply Writes.seq (writes_prefix ext _) (writes_arr _ _ vs fun v hv => writes_enc e v (hall v hv))
  | .msg ext fs => fun v h => by
      obtain ⟨vs, rfl, h⟩ := shape_msg h
      apply Writes.seq (writes_prefix ext _) (writes_fields fs vs h)
theorem writes_fields : ∀ (fs : List (Nat × Ty)) (vs : List Val), shapeFields fs vs = true →
    Writes (encFields fs vs) (Spec.bitsFields fs vs)
  | [], [] => fun _ => Writes.nil
  | (_, t) :: fs, v :: vs => fun h => by
      have h := shapeFields_cons h
      apply Writes.seq (writes_enc t v h.1) (writes_fields fs vs h.2)
  | [], _ :: _ | _ :: _, [] => fun h => by simp [shapeFields] at h
end

/-- **the generated `encode()` returns exactly the specified bytes** (for every value of the right
shape — in-range or not — so also C07's masking claim) -/
theorem encode_eq_spec (t : Ty) (v : Val) (h : shape t v = true) :
    encode t v = .ok (Spec.encode t v) :=
  (writes_enc t v h).encode h

end Bp.PyRt
