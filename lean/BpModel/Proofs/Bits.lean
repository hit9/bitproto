import BpModel.Model.Bits
/-!
# Byte lists and their Nat view; placing a run of bits (`slice`, `Placed`, `Wrote`)
-/
namespace Bp

theorem testBit_of_lt_two_pow {x a k : Nat} (h : x < 2^a) (hk : a ≤ k) : x.testBit k = false :=
  Nat.testBit_lt_two_pow (Nat.lt_of_lt_of_le h (Nat.pow_le_pow_right (by decide) hk))

theorem testBit_shiftRight_shiftLeft (x a p : Nat) :
    ((x >>> a) <<< a).testBit p = (decide (a ≤ p) && x.testBit p) := by
  rw [Nat.testBit_shiftLeft, Nat.testBit_shiftRight]
  by_cases h : a ≤ p
  · rw [Nat.add_sub_cancel' h]
  · rw [decide_eq_false h, Bool.false_and, Bool.false_and]

theorem two_pow_sub_testBit (W n k : Nat) (h : n ≤ W) :
    (2^W - 2^n).testBit k = (decide (n ≤ k) && decide (k < W)) := by
  -- `2^W - ((2^n - 1) + 1)`: the bits below `W` that are not bits of `2^n - 1`
  have hlt : 2^n - 1 < 2^W :=
    Nat.lt_of_lt_of_le (Nat.sub_one_lt (Nat.ne_of_gt (Nat.two_pow_pos n))) (Nat.pow_le_pow_right (by decide) h)
  rw [← Nat.sub_add_cancel (Nat.two_pow_pos n), Nat.testBit_two_pow_sub_succ hlt, Nat.testBit_two_pow_sub_one,
    Bool.and_comm, ← decide_not]
  exact congrArg (· && _) (decide_eq_decide.2 Nat.not_lt)

theorem bytes_le_of_bits {a b : Nat} (h : a ≤ 8 * b) : (a + 7) / 8 ≤ b := by omega

theorem div8_lt_of_room {i m L : Nat} (hm : 0 < m) (h : i + m ≤ 8 * L) : i / 8 < L := by omega

theorem two_pow_eight_succ (n : Nat) : 2^(8 * (n + 1)) = 256 * 2^(8 * n) := by
  rw [Nat.mul_succ, Nat.pow_add, Nat.mul_comm]

theorem AllBytes.head {b : Nat} {bs : List Nat} (h : AllBytes (b :: bs)) : b < 256 := (List.forall_mem_cons.1 h).1

theorem AllBytes.tail {b : Nat} {bs : List Nat} (h : AllBytes (b :: bs)) : AllBytes bs := (List.forall_mem_cons.1 h).2

theorem AllBytes.cons {b : Nat} {bs : List Nat} (hb : b < 256) (h : AllBytes bs) : AllBytes (b :: bs) :=
  List.forall_mem_cons.2 ⟨hb, h⟩

/-- bit `r` of byte `q`; with `q = p / 8`, `r = p % 8` this is `bytesToNat_testBit`, and in this form the
arithmetic about positions stays linear -/
theorem bytesToNat_testBit_add : ∀ (bs : List Nat), AllBytes bs → ∀ q r, r < 8 →
    (bytesToNat bs).testBit (8 * q + r) = (bs.getD q 0).testBit r
  | [], _, q, r, _ => (Nat.zero_testBit _).trans (Nat.zero_testBit r).symm
  | b :: bs, h, q, r, hr => by
    have hb : b < 2^8 := h.head
    rw [bytesToNat, Nat.add_comm b, Nat.testBit_two_pow_mul_add _ hb]
    cases q with
    | zero => rw [if_pos (by omega), Nat.mul_zero, Nat.zero_add]; rfl
    | succ q =>
      rw [if_neg (by omega), Nat.mul_succ, Nat.add_right_comm, Nat.add_sub_cancel,
        bytesToNat_testBit_add bs h.tail q r hr]
      rfl

theorem bytesToNat_testBit : ∀ (bs : List Nat), AllBytes bs → ∀ p,
    (bytesToNat bs).testBit p = (bs.getD (p / 8) 0).testBit (p % 8) := fun bs h p => by
  rw [← bytesToNat_testBit_add bs h _ _ (Nat.mod_lt p (by decide)), Nat.div_add_mod]

theorem streamBit_eq (bs : List Nat) (h : AllBytes bs) (k : Nat) :
    streamBit bs k = (bytesToNat bs).testBit k := by
  rw [bytesToNat_testBit bs h]; rfl

theorem getElem_testBit (s : List Nat) (hs : AllBytes s) (idx : Nat) (hi : idx < s.length) (q : Nat) :
    s[idx].testBit q = (decide (q < 8) && (bytesToNat s).testBit (8 * idx + q)) := by
  by_cases hq : q < 8
  · rw [bytesToNat_testBit_add s hs idx q hq, decide_eq_true hq, Bool.true_and, List.getD_eq_getElem?_getD,
      List.getElem?_eq_getElem hi]
    rfl
  · rw [decide_eq_false hq, Bool.false_and]
    exact testBit_of_lt_two_pow (hs _ (List.getElem_mem hi)) (Nat.le_of_not_lt hq)

theorem bytesToNat_lt : ∀ (bs : List Nat), AllBytes bs → bytesToNat bs < 2^(8 * bs.length)
  | [], _ => Nat.two_pow_pos _
  | b :: bs, h => by
    have hb := h.head
    have ih := bytesToNat_lt bs h.tail
    rw [bytesToNat, List.length_cons, two_pow_eight_succ]; omega

theorem orAt_eq_modify : ∀ (bs : List Nat) (i d : Nat), orAt bs i d = bs.modify i (· ||| d)
  | [], _, _ => by simp [orAt]
  | _ :: _, 0, _ => by simp [orAt]
  | b :: bs, i+1, d => by simp [orAt, orAt_eq_modify bs i d]

theorem orAt_length (bs : List Nat) (i d : Nat) : (orAt bs i d).length = bs.length := by
  rw [orAt_eq_modify, List.length_modify]

theorem orAt_allBytes : ∀ (bs : List Nat) (i d : Nat), AllBytes bs → d < 256 → AllBytes (orAt bs i d)
  | [], _, _, h, _ => h
  | _ :: _, 0, _, h, hd => .cons (Nat.or_lt_two_pow (n := 8) h.head hd) h.tail
  | _ :: bs, i+1, d, h, hd => .cons h.head (orAt_allBytes bs i d h.tail hd)

/-- a byte and the bytes above it do not overlap: their sum is their `|||` -/
theorem bytesToNat_cons_or {b : Nat} (hb : b < 256) (bs : List Nat) :
    bytesToNat (b :: bs) = bytesToNat bs <<< 8 ||| b := by
  rw [bytesToNat, Nat.add_comm, ← Nat.shiftLeft_add_eq_or_of_lt (i := 8) hb, Nat.shiftLeft_eq, Nat.mul_comm]

theorem bytesToNat_orAt (bs : List Nat) (i d : Nat) (h : AllBytes bs) (hd : d < 256) (hi : i < bs.length) :
    bytesToNat (orAt bs i d) = bytesToNat bs ||| (d <<< (8 * i)) := by
  -- along the list: `d` meets the head byte, or moves up by the 8 bits of the head byte
  induction bs generalizing i with
  | nil => cases hi
  | cons b bs ih =>
    cases i with
    | zero =>
      rw [orAt, Nat.mul_zero, Nat.shiftLeft_zero, bytesToNat_cons_or (Nat.or_lt_two_pow (n := 8) h.head hd),
        bytesToNat_cons_or h.head, Nat.or_assoc]
    | succ i =>
      rw [orAt, Nat.mul_succ, Nat.shiftLeft_add, bytesToNat_cons_or h.head, bytesToNat_cons_or h.head,
        ih i h.tail (Nat.lt_of_succ_lt_succ hi), Nat.shiftLeft_or_distrib, Nat.or_assoc, Nat.or_comm _ b,
        ← Nat.or_assoc]

theorem setAt_or_eq_orAt : ∀ (bs : List Nat) (i d old : Nat), bs[i]? = some old →
    setAt bs i (old ||| d) = orAt bs i d
  | [], _, _, _, h => by cases h
  | b :: bs, 0, d, old, h => by cases h; rfl
  | b :: bs, i+1, d, old, h => congrArg (b :: ·) (setAt_or_eq_orAt bs i d old h)

theorem zeros_length (n : Nat) : (zeros n).length = n := List.length_replicate

theorem zeros_allBytes (n : Nat) : AllBytes (zeros n) :=
  fun b hb => by rw [List.eq_of_mem_replicate hb]; decide

theorem bytesToNat_zeros : ∀ n, bytesToNat (zeros n) = 0
  | 0 => rfl
  | n+1 => by
    show bytesToNat (0 :: zeros n) = 0
    rw [bytesToNat, bytesToNat_zeros n]

theorem bytesToNat_append : ∀ (a b : List Nat), bytesToNat (a ++ b) = bytesToNat a + 2^(8 * a.length) * bytesToNat b
  | [], b => by simp [bytesToNat]
  | x :: a, b => by
    rw [List.cons_append, bytesToNat, bytesToNat, bytesToNat_append a b, List.length_cons, two_pow_eight_succ,
      Nat.mul_add, Nat.mul_assoc, Nat.add_assoc]

theorem bytesToNat_append_zeros (l : List Nat) (k : Nat) : bytesToNat (l ++ zeros k) = bytesToNat l := by
  rw [bytesToNat_append, bytesToNat_zeros, Nat.mul_zero, Nat.add_zero]

theorem natToBytes_length : ∀ (len n : Nat), (natToBytes len n).length = len
  | 0, _ => rfl
  | len+1, n => by simp [natToBytes, natToBytes_length len]

theorem natToBytes_take : ∀ (a b n : Nat), a ≤ b → (natToBytes b n).take a = natToBytes a n
  | 0, _, _, _ => by simp [natToBytes]
  | a+1, b+1, n, h => by simp [natToBytes, natToBytes_take a b (n / 256) (by omega)]

theorem natToBytes_allBytes : ∀ (len n : Nat), AllBytes (natToBytes len n)
  | 0, _ => nofun
  | len+1, n => .cons (Nat.mod_lt n (by decide)) (natToBytes_allBytes len (n / 256))

theorem natToBytes_bytesToNat : ∀ (bs : List Nat), AllBytes bs → natToBytes bs.length (bytesToNat bs) = bs
  | [], _ => rfl
  | b :: bs, h => by
    rw [List.length_cons, natToBytes, bytesToNat, Nat.add_mul_mod_self_left, Nat.mod_eq_of_lt h.head,
      Nat.add_mul_div_left _ _ (by decide), Nat.div_eq_of_lt h.head, Nat.zero_add, natToBytes_bytesToNat bs h.tail]

theorem eq_of_bits (a b : List Nat) (ha : AllBytes a) (hb : AllBytes b) (hl : a.length = b.length)
    (h : ∀ p, (bytesToNat a).testBit p = (bytesToNat b).testBit p) : a = b := by
  have := Nat.eq_of_testBit_eq h
  rw [← natToBytes_bytesToNat a ha, ← natToBytes_bytesToNat b hb, hl, this]

theorem bytesToNat_natToBytes : ∀ (len n : Nat), bytesToNat (natToBytes len n) = n % 2^(8*len)
  | 0, n => by simp [natToBytes, bytesToNat, Nat.mod_one]
  | len+1, n => by
    rw [natToBytes, bytesToNat, bytesToNat_natToBytes len (n / 256), two_pow_eight_succ, Nat.mod_mul]

theorem bitsToNat_testBit : ∀ (c : List Bool) (p : Nat), (bitsToNat c).testBit p = bitAt c p
  | [], p => by simp [bitsToNat, bitAt]
  | b :: c, p => by
    have hb : (if b then 1 else 0) < 2^1 := by cases b <;> decide
    rw [bitsToNat, Nat.add_comm, Nat.testBit_two_pow_mul_add _ hb]
    cases p with
    | zero => cases b <;> rfl
    | succ p => exact bitsToNat_testBit c p

theorem bitAt_of_le (c : List Bool) (k : Nat) (h : c.length ≤ k) : bitAt c k = false := by
  simp [bitAt, List.getD_eq_getElem?_getD, List.getElem?_eq_none h]

theorem bitsToNat_lt : ∀ (c : List Bool), bitsToNat c < 2^c.length := fun c =>
  Nat.lt_pow_two_of_testBit _ fun p hp => by rw [bitsToNat_testBit, bitAt_of_le c p hp]

theorem bitAt_append_left (a b : List Bool) (k : Nat) (h : k < a.length) : bitAt (a ++ b) k = bitAt a k := by
  simp [bitAt, List.getD_eq_getElem?_getD, List.getElem?_append_left h]

theorem bitAt_append_right (a b : List Bool) (k : Nat) (h : a.length ≤ k) :
    bitAt (a ++ b) k = bitAt b (k - a.length) := by
  simp [bitAt, List.getD_eq_getElem?_getD, List.getElem?_append_right h]

/-! ## placing a run of bits

Every copying loop of the runtimes (`process_base_type` and its compile-time unrolling, `BpCopyBufferBits`)
establishes the same relation between its destination before and after: the source run has been OR-ed in at
the cursor, nothing else has changed.  The loops establish it one chunk at a time (`Placed.trans`). -/

/-- bit `p` of the run `src 0, …, src (n-1)` placed at positions `[i, i+n)` -/
def slice (i n : Nat) (src : Nat → Bool) (p : Nat) : Bool :=
  decide (i ≤ p) && decide (p < i + n) && src (p - i)

theorem slice_inside {i n p : Nat} {src : Nat → Bool} (h1 : i ≤ p) (h2 : p < i + n) :
    slice i n src p = src (p - i) := by
  rw [slice, decide_eq_true h1, decide_eq_true h2]; rfl

theorem slice_outside {i n p : Nat} {src : Nat → Bool} (h : ¬ (i ≤ p ∧ p < i + n)) :
    slice i n src p = false := by
  rw [slice, ← Bool.decide_and, decide_eq_false h, Bool.false_and]

theorem slice_of_lt {i n p : Nat} {src : Nat → Bool} (h : p < i) : slice i n src p = false :=
  slice_outside (by omega)

theorem slice_of_ge {i n p : Nat} {src : Nat → Bool} (h : i + n ≤ p) : slice i n src p = false :=
  slice_outside (by omega)

theorem slice_empty (i : Nat) (src : Nat → Bool) (p : Nat) : slice i 0 src p = false :=
  slice_outside (by omega)

theorem slice_at_zero (n : Nat) (src : Nat → Bool) (p : Nat) : slice 0 n src p = (decide (p < n) && src p) := by
  rw [slice, decide_eq_true (Nat.zero_le p), Bool.true_and, Nat.zero_add, Nat.sub_zero]

theorem slice_congr {i n p : Nat} {src src' : Nat → Bool} (h : ∀ k, k < n → src k = src' k) :
    slice i n src p = slice i n src' p := by
  by_cases hp : i ≤ p ∧ p < i + n
  · rw [slice_inside hp.1 hp.2, slice_inside hp.1 hp.2, h _ (by omega)]
  · rw [slice_outside hp, slice_outside hp]

theorem slice_add (i c m : Nat) (src : Nat → Bool) (p : Nat) :
    slice i (c + m) src p = (slice i c src p || slice (i + c) m (fun k => src (c + k)) p) := by
  by_cases h : p < i + c
  · rw [slice_of_lt h, Bool.or_false, slice, slice, decide_eq_true h, decide_eq_true (Nat.lt_of_lt_of_le h (by omega))]
  · have h := Nat.le_of_not_lt h
    have hi : i ≤ p := Nat.le_trans (Nat.le_add_right i c) h
    rw [slice_of_ge h, Bool.false_or, slice, slice, decide_eq_true h, decide_eq_true hi, Nat.add_assoc, Bool.true_and,
      Nat.sub_add_eq, Nat.add_sub_cancel' (Nat.le_sub_of_add_le' h)]

theorem slice_sub {b p : Nat} (h : b ≤ p) (i n : Nat) (src : Nat → Bool) :
    slice i n src (p - b) = slice (b + i) n src p := by
  rw [slice, slice, Nat.sub_sub, decide_eq_decide.2 (Nat.le_sub_iff_add_le' h),
    decide_eq_decide.2 (Nat.sub_lt_iff_lt_add' h), Nat.add_assoc]

/-- `slice` under a left shift by `b` (the shape of `Nat.testBit_shiftLeft`) -/
theorem slice_shift (b i n : Nat) (src : Nat → Bool) (p : Nat) :
    (decide (b ≤ p) && slice i n src (p - b)) = slice (b + i) n src p := by
  by_cases h : b ≤ p
  · rw [decide_eq_true h, Bool.true_and, slice_sub h]
  · rw [decide_eq_false h, Bool.false_and, slice_of_lt (by omega)]

/-- `new` is `old` with the run `src 0, …, src (n-1)` OR-ed in at `[i, i+n)`.  The statements that spell this out
bit by bit (`CRt.StepOk`, `copyLoop_spec`, `procBaseEnc_spec`, `PyRt.Writes`, `C03_copier`) are `Placed` by unfolding
`slice`, and are proved as such. -/
def Placed (old new : Nat → Bool) (i n : Nat) (src : Nat → Bool) : Prop := ∀ p, new p = (old p || slice i n src p)

theorem Placed.of_src_false {a : Nat → Bool} {i n : Nat} {src : Nat → Bool} (h : ∀ k, k < n → src k = false) :
    Placed a a i n src :=
  fun p => by rw [slice_congr h (src' := fun _ => false), slice, Bool.and_false, Bool.or_false]

theorem Placed.zero (a : Nat → Bool) (i : Nat) (src : Nat → Bool) : Placed a a i 0 src :=
  fun p => by rw [slice_empty, Bool.or_false]

theorem Placed.trans {a b d : Nat → Bool} {i i' c m n : Nat} {src src' : Nat → Bool}
    (h1 : Placed a b i c src) (h2 : Placed b d i' m src') (hi : i' = i + c) (hn : n = c + m)
    (hs : ∀ k, src' k = src (c + k)) : Placed a d i n src := by
  intro p
  have : src' = fun k => src (c + k) := funext hs
  rw [h2 p, h1 p, hi, hn, this, Bool.or_assoc, ← slice_add]

theorem Placed.clean {a b : Nat → Bool} {i n : Nat} {src : Nat → Bool} (h : Placed a b i n src)
    (hz : ∀ p, i ≤ p → a p = false) {p : Nat} (hp : i + n ≤ p) : b p = false := by
  rw [h p, hz p (by omega), slice_of_ge hp]; rfl

/-- the byte buffer `s'` is `s` (same length) with the run `src` OR-ed in at stream bits `[i, i+n)` -/
structure Wrote (s s' : List Nat) (i n : Nat) (src : Nat → Bool) : Prop where
  bytes : AllBytes s'
  length : s'.length = s.length
  placed : Placed (bytesToNat s).testBit (bytesToNat s').testBit i n src

theorem Wrote.congr {s s' : List Nat} {i n : Nat} {src src' : Nat → Bool} (h : Wrote s s' i n src)
    (hs : ∀ k, k < n → src k = src' k) : Wrote s s' i n src' :=
  ⟨h.bytes, h.length, fun p => by rw [h.placed p, slice_congr hs]⟩

theorem Wrote.zero {s : List Nat} (hs : AllBytes s) (i : Nat) (src : Nat → Bool) : Wrote s s i 0 src :=
  ⟨hs, rfl, .zero _ i src⟩

theorem Wrote.trans {s s1 s2 : List Nat} {i i' c m n : Nat} {src src' : Nat → Bool}
    (h1 : Wrote s s1 i c src) (h2 : Wrote s1 s2 i' m src') (hi : i' = i + c) (hn : n = c + m)
    (hs : ∀ k, src' k = src (c + k)) : Wrote s s2 i n src :=
  ⟨h2.bytes, h2.length.trans h1.length, h1.placed.trans h2.placed hi hn hs⟩

/-- `s[idx] |= d` for a byte value `d` whose bits, seen from byte `idx`, are the run `src` at `[i, i+n)` -/
theorem Wrote.orByte {s : List Nat} {idx old d i n : Nat} {src : Nat → Bool} (hs : AllBytes s)
    (hget : s[idx]? = some old) (hd : d < 256) (hb : ∀ p, (d <<< (8 * idx)).testBit p = slice i n src p) :
    Wrote s (setAt s idx (old ||| d)) i n src := by
  have hi : idx < s.length := (List.getElem?_eq_some_iff.mp hget).1
  rw [setAt_or_eq_orAt _ _ _ _ hget]
  refine ⟨orAt_allBytes _ _ _ hs hd, orAt_length _ _ _, fun p => ?_⟩
  rw [bytesToNat_orAt _ _ _ hs hd hi, Nat.testBit_or, hb p]

end Bp
