import BpModel.Model.Spec
import BpModel.Proofs.Bits
import BpModel.Proofs.PyInt
/-!
# What the specification's own definitions do

Two's complement (`tc`) and its signed reading (`sgn`), the chunk of a scalar (`natBits`, `leafBits`, seen through
`bitAt`), and the checked read of the decoder (`readNat`, `readB`), each through `Nat.testBit` / `PyInt.tb`.
-/
namespace Bp

theorem tc_testBit (x : Int) (W k : Nat) : (tc x W).testBit k = (decide (k < W) && PyInt.tb x k) := by
  -- `(2:Int)^W` is `Int.ofNat (2^W)` by definition, and `%` on constructors computes
  cases x with
  | ofNat m =>
    rw [show tc (Int.ofNat m) W = m % 2^W from rfl, Nat.testBit_mod_two_pow]; rfl
  | negSucc m =>
    -- -(m+1) mod 2^W = 2^W - 1 - (m mod 2^W)
    have hlt : m % 2^W < 2^W := Nat.mod_lt _ (Nat.two_pow_pos W)
    have : tc (Int.negSucc m) W = 2^W - (m % 2^W + 1) := congrArg Int.toNat (Int.subNatNat_of_le hlt)
    rw [this, Nat.testBit_two_pow_sub_succ hlt, Nat.testBit_mod_two_pow]
    cases decide (k < W) <;> rfl

theorem tc_lt (x : Int) (W : Nat) : tc x W < 2^W :=
  Nat.lt_pow_two_of_testBit _ fun k hk => by rw [tc_testBit, decide_eq_false (Nat.not_lt.2 hk), Bool.false_and]

/-- bit `W - 1` OR-ed into every position from `W` on: the sign extension of a run `f` that is clear from `W` on (and
what `x |= ~((1 << W) - 1)` does to any `x` whose bit `W - 1` is set) -/
def sext (W : Nat) (f : Nat → Bool) (k : Nat) : Bool := f k || (decide (W ≤ k) && f (W - 1))

theorem sext_of_false {W : Nat} {f : Nat → Bool} (h : f (W - 1) = false) (k : Nat) : sext W f k = f k := by
  rw [sext, h, Bool.and_false, Bool.or_false]

theorem tb_sgn (u n : Nat) (hu : u < 2^n) (k : Nat) : PyInt.tb (sgn u n) k = sext n u.testBit k := by
  unfold sgn
  by_cases hs : u.testBit (n-1) = true
  · rw [if_pos hs, PyInt.tb_sub_two_pow hu, sext, hs, Bool.and_true]
  · rw [if_neg hs, sext_of_false (eq_false_of_ne_true hs)]; rfl

theorem tc_of_nonneg (x : Int) (n : Nat) (h0 : 0 ≤ x) (h1 : x < (2:Int)^n) : ((tc x n : Nat) : Int) = x := by
  unfold tc
  rw [Int.emod_eq_of_lt h0 h1, Int.toNat_of_nonneg h0]

theorem tb_const_of_range (x : Int) (n : Nat) (lo : -(2:Int)^(n-1) ≤ x) (hi : x < (2:Int)^(n-1))
    (k : Nat) (hk : n - 1 ≤ k) : PyInt.tb x k = PyInt.tb x (n - 1) := by
  -- `x` is `m` or `-(m + 1)` with `m < 2^(n-1)`, whose bits from `n - 1` on are 0
  have f : ∀ m : Nat, m < 2^(n-1) → m.testBit k = m.testBit (n - 1) := fun m hm => by
    rw [testBit_of_lt_two_pow hm hk, Nat.testBit_lt_two_pow hm]
  rw [PyInt.two_pow_cast] at lo hi
  cases x with
  | ofNat m => exact f m (Int.ofNat_lt.mp hi)
  | negSucc m => exact congrArg (!·) (f m (by rw [Int.negSucc_eq] at lo; omega))

theorem sgn_tc (x : Int) (n : Nat) (hn : 1 ≤ n) (lo : -(2:Int)^(n-1) ≤ x) (hi : x < (2:Int)^(n-1)) :
    sgn (tc x n) n = x := by
  refine PyInt.eq_of_tb_eq _ _ fun k => ?_
  rw [tb_sgn _ n (tc_lt x n), sext, tc_testBit, tc_testBit, decide_eq_true (Nat.sub_lt hn Nat.one_pos), Bool.true_and]
  -- below `n` the bits of `x` itself; from `n` on bit `n - 1` of `x`, which `x` repeats from there on
  by_cases hk : k < n
  · rw [decide_eq_true hk, decide_eq_false (Nat.not_le.2 hk), Bool.true_and, Bool.false_and, Bool.or_false]
  · have hk := Nat.le_of_not_lt hk
    rw [decide_eq_false (Nat.not_lt.2 hk), decide_eq_true hk, Bool.false_and, Bool.false_or, Bool.true_and,
      tb_const_of_range x n lo hi k (Nat.le_trans (Nat.sub_le n 1) hk)]

theorem natBits_length (n u : Nat) : (natBits n u).length = n := by simp [natBits]
theorem leafBits_length (n : Nat) (x : Int) : (leafBits n x).length = n := by simp [leafBits, natBits]

theorem bitAt_natBits (n u k : Nat) : bitAt (natBits n u) k = (decide (k < n) && u.testBit k) := by
  by_cases h : k < n <;> simp [bitAt, natBits, List.getD_eq_getElem?_getD, h]

theorem bitAt_leafBits (n : Nat) (x : Int) (k : Nat) :
    bitAt (leafBits n x) k = (decide (k < n) && PyInt.tb x k) := by
  rw [leafBits, bitAt_natBits, tc_testBit, ← Bool.and_assoc, Bool.and_self]

/-- a leaf's chunk is the low `n` bits of the two's complement at any width `W ≥ n` (the cells of the C runtime) -/
theorem tc_testBit_leaf {n W k : Nat} (x : Int) (hk : k < n) (hW : n ≤ W) :
    (tc x W).testBit k = bitAt (leafBits n x) k := by
  rw [bitAt_leafBits, tc_testBit, decide_eq_true hk, decide_eq_true (Nat.lt_of_lt_of_le hk hW)]

theorem leafBits_natCast (n v : Nat) : leafBits n (v : Int) = natBits n v := by
  unfold leafBits natBits
  refine List.map_congr_left fun k hk => ?_
  rw [tc_testBit, decide_eq_true (by simpa using hk)]; rfl

theorem prefix_length (ext : Bool) (v : Nat) : (if ext then natBits 16 v else []).length = extBits ext := by
  cases ext <;> simp [natBits_length, extBits]

theorem le_nbytes (n : Nat) : n ≤ 8 * nbytes n := by unfold nbytes; omega

theorem Spec.encode_length (t : Ty) (v : Val) : (Spec.encode t v).length = nbytes t.nbits := natToBytes_length _ _

theorem packed_testBit (N : Nat) (bits : List Bool) (p : Nat) :
    (bytesToNat (natToBytes (nbytes N) (bitsToNat bits))).testBit p =
      (decide (p < 8 * nbytes N) && bitAt bits p) := by
  rw [bytesToNat_natToBytes, Nat.testBit_mod_two_pow, bitsToNat_testBit]

theorem readNat_testBit (W i n k : Nat) :
    (readNat W i n).testBit k = (decide (k < n) && W.testBit (i + k)) := by
  unfold readNat
  rw [Nat.testBit_mod_two_pow, Nat.testBit_shiftRight]

theorem readNat_lt (W i n : Nat) : readNat W i n < 2^n := Nat.mod_lt _ (Nat.pow_pos (by decide))

/-- a field whose bits are the run of `n` wire bits from `i`, on top of a zero field, holds `readNat` -/
theorem eq_readNat_of_placed {W i n : Nat} {u : Nat}
    (h : Placed (0 : Nat).testBit u.testBit 0 n (fun k => W.testBit (i + k))) : u = readNat W i n := by
  refine Nat.eq_of_testBit_eq fun k => ?_
  rw [h k, readNat_testBit, Nat.zero_testBit, Bool.false_or, slice_at_zero]

theorem readB_some {W L i n u : Nat} (h : readB W L i n = some u) : i + n ≤ L ∧ u = readNat W i n := by
  unfold readB at h
  split at h
  · exact ⟨‹_›, (Option.some.inj h).symm⟩
  · cases h

end Bp
