import BpModel.Model.PyRt
import BpModel.Proofs.Writes
import BpModel.Proofs.Helpers
/-!
# The Python encoder writes exactly the specified bits

A leaf `Writes` its chunk (no `IndexError`, no `ValueError`) by the chunk / loop lemmas; the prefix and the element
loop follow.
-/
namespace Bp.PyRt

theorem and255_nonneg (y : Int) : ∃ n : Nat, PyInt.and y 255 = Int.ofNat n := by
  cases y with
  | ofNat m => exact ⟨m &&& 255, rfl⟩
  | negSucc m => exact ⟨PyInt.andNot 255 m, rfl⟩

theorem getByte_testBit (x : Int) (r p : Nat) :
    (getByte x r).testBit p = (decide (p < 8) && PyInt.tb x (r + p)) := by
  obtain ⟨n, hn⟩ := and255_nonneg (PyInt.shr x r)
  have h := PyInt.tb_and (PyInt.shr x r) 255 p
  rw [hn, PyInt.tb_shr] at h
  rw [getByte, hn, Bool.and_comm]
  exact h.trans (congrArg (_ && ·) (Nat.testBit_two_pow_sub_one 8 p))

/-- one `encode_single_byte`: bits `j, …, j+c-1` of `x` go to stream bits `i, …, i+c-1` -/
theorem encChunk_spec (s : List Nat) (i : Nat) (x : Int) (j c : Nat) (hs : AllBytes s)
    (hi : i / 8 < s.length) (hc1 : c ≤ 8 - j % 8) (hc2 : c ≤ 8 - i % 8) :
    ∃ s', encChunk s i x j c = .ok s' ∧ Wrote s s' i c (fun k => PyInt.tb x (j + k)) := by
  have hget : s[i / 8]? = some s[i / 8] := List.getElem?_eq_getElem hi
  have hd := getMask_and_lt (smartShift (getByte x (j / 8 * 8)) (((j % 8 : Nat) : Int) - ((i % 8 : Nat) : Int)))
    (i % 8) c (by omega)
  have hor := Nat.or_lt_two_pow (n := 8) (hs _ (List.getElem_mem hi)) hd
  refine ⟨_, by simp only [encChunk, hget, hor, if_true], .orByte hs hget hd fun p => ?_⟩
  rw [chunk_testBit]
  refine slice_congr fun k hk => ?_
  rw [getByte_testBit, decide_eq_true (by omega), Bool.true_and, ← Nat.add_assoc, Nat.div_add_mod']

/-- the `process_base_type` loop (encode direction): bits `j, …, n-1` of `x` go to the stream from bit `i` on -/
theorem procBaseEnc_wrote (n : Nat) (x : Int) : ∀ (fuel i j : Nat), n - j ≤ fuel → ∀ (s : List Nat),
    AllBytes s → i + (n - j) ≤ 8 * s.length →
    ∃ s', procBaseEnc n x fuel s i j = .ok (s', i + (n - j)) ∧ Wrote s s' i (n - j) (fun k => PyInt.tb x (j + k)) := by
  refine chunk_induction n ?_ ?_
  · intro fuel i j hj s hs _
    rw [Nat.sub_eq_zero_of_le hj]
    exact ⟨s, by cases fuel <;> simp [procBaseEnc, Nat.not_lt.2 hj], .zero hs i _⟩
  · intro fuel i j c hlt hc _ hsum hc1 hc2 ih s hs hroom
    rw [Nat.add_assoc, ← hsum] at ih
    obtain ⟨s1, e1, w1⟩ := encChunk_spec s i x j c hs (div8_lt_of_room (Nat.sub_pos_of_lt hlt) hroom) hc1 hc2
    obtain ⟨s2, e2, w2⟩ := ih s1 w1.bytes (w1.length ▸ hroom)
    exact ⟨s2, by simp only [procBaseEnc, hlt, if_true, hc, e1, e2],
      w1.trans w2 rfl hsum fun k => by rw [Nat.add_assoc]⟩

theorem procBaseEnc_spec (n : Nat) (x : Int) : ∀ (fuel : Nat) (s : List Nat) (i j : Nat),
    n - j ≤ fuel → j ≤ n → AllBytes s → i + (n - j) ≤ 8 * s.length →
    ∃ s', procBaseEnc n x fuel s i j = .ok (s', i + (n - j)) ∧ AllBytes s' ∧ s'.length = s.length ∧
      ∀ p, (bytesToNat s').testBit p =
        ((bytesToNat s).testBit p ||
          (decide (i ≤ p) && decide (p < i + (n - j)) && PyInt.tb x (j + (p - i)))) := by
  intro fuel s i j hf hj hs hroom
  obtain ⟨s', e, w⟩ := procBaseEnc_wrote n x fuel i j hf s hs hroom
  exact ⟨s', e, w.bytes, w.length, w.placed⟩

theorem writes_leaf (n : Nat) (x : Int) : Writes (encLeaf n x) (leafBits n x) := by
  refine Writes.iff_wrote.2 fun s i hs hroom _ => ?_
  rw [leafBits_length] at hroom ⊢
  obtain ⟨s', e, w⟩ := procBaseEnc_wrote n x n i 0 (Nat.sub_le n 0) s hs hroom
  exact ⟨s', e, w.congr fun k hk => by
    rw [Nat.zero_add, bitAt_leafBits, decide_eq_true (show k < n from hk), Bool.true_and]⟩

theorem writes_prefix (ext : Bool) (v : Nat) :
    Writes (encPrefix ext v) (if ext then natBits 16 v else []) := by
  cases ext with
  | false => exact Writes.nil
  | true => exact leafBits_natCast 16 v ▸ writes_leaf 16 (v : Int)

/-- `for k in range(capacity)` over a list with exactly that many elements -/
theorem writes_arr (f : Val → Act) (bits : Val → List Bool) :
    ∀ (vs : List Val), (∀ v ∈ vs, Writes (f v) (bits v)) →
      Writes (encArrWith f vs.length vs) (vs.flatMap bits)
  | [], _ => Writes.nil
  | v :: vs, h => by
    have h2 := writes_arr f bits vs fun w hw => h w (List.mem_cons_of_mem v hw)
    rw [List.flatMap_cons]
    refine Writes.congr (fun s i => ?_) (Writes.seq (h v List.mem_cons_self) h2)
    simp only [List.length_cons, encArrWith]
    cases f v s i <;> rfl

end Bp.PyRt
