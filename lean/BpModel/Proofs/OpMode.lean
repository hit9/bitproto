import BpModel.Model.OpMode
import BpModel.Proofs.CLeaf
import BpModel.Proofs.WireTree
/-!
# Optimization mode: the items of every dialect write exactly the specified bits, and the decoder items (the model
has one form of them for all dialects) read them
-/
namespace Bp.OpMode
open PyRt

theorem byte_zero_of_clean (s : List Nat) (hs : AllBytes s) (i : Nat) (hi : i / 8 < s.length) (h0 : i % 8 = 0)
    (hz : ∀ p, i ≤ p → (bytesToNat s).testBit p = false) : s[i / 8] = 0 := by
  refine Nat.eq_of_testBit_eq fun q => ?_
  rw [getElem_testBit s hs (i / 8) hi q, Nat.zero_testBit, hz (8 * (i / 8) + q) (by omega), Bool.and_false]

/-- one encoder statement whose value `d`, seen from byte `i / 8`, is the chunk: `=` on the first write to a byte
is `|=`, because the byte is still zero in a buffer that is clean at and above the cursor -/
theorem execItem_wrote {s : List Nat} {i c d : Nat} {assign : Bool} {src : Nat → Bool} (hs : AllBytes s)
    (hi : i / 8 < s.length) (hc2 : c ≤ 8 - i % 8) (hz : ∀ p, i ≤ p → (bytesToNat s).testBit p = false)
    (ha : assign = true → i % 8 = 0)
    (hd : ∀ p, ((d &&& getMask (i % 8) c) <<< (8 * (i / 8))).testBit p = slice i c src p) :
    Wrote s (setAt s (i / 8) (newByte assign s[i / 8] (d &&& getMask (i % 8) c))) i c src := by
  have : newByte assign s[i / 8] (d &&& getMask (i % 8) c) = s[i / 8] ||| (d &&& getMask (i % 8) c) := by
    cases assign with
    | false => rfl
    | true => rw [byte_zero_of_clean s hs i hi (ha rfl) hz]; simp [newByte]
  rw [this]
  exact .orByte hs (List.getElem?_eq_getElem hi) (getMask_and_lt _ _ _ (by omega)) hd

/-- what a dialect's encoder statement has to do: from a buffer that is clean at and above the cursor `i`, the item
`mkEnc i j c` moves bits `j, …, j+c-1` of the field to stream bits `i, …, i+c-1` -/
def ItemOk (f : Item → List Nat → Except Exc (List Nat)) (U : Nat) : Prop :=
  ∀ (s : List Nat) (i j c : Nat), AllBytes s → i / 8 < s.length → c ≤ 8 - j % 8 → c ≤ 8 - i % 8 →
    (∀ p, i ≤ p → (bytesToNat s).testBit p = false) →
    ∃ s', f (mkEnc i j c) s = .ok s' ∧ Wrote s s' i c (fun k => U.testBit (j + k))

/-- byte form (C little-endian branch, Go) -/
theorem execEnc_ok (assignOnR0 : Bool) (U : Nat) : ItemOk (execEnc assignOnR0 U) U := by
  intro s i j c hs hi hc1 hc2 hz
  simp only [execEnc, mkEnc, List.getElem?_eq_getElem hi]
  refine ⟨_, rfl, execItem_wrote hs hi hc2 hz (by simp) fun p => ?_⟩
  rw [chunk_testBit]
  refine slice_congr fun k hk => ?_
  rw [show (256:Nat) = 2^8 by decide, Nat.testBit_mod_two_pow, Nat.testBit_shiftRight, decide_eq_true (by omega),
    Bool.true_and, ← Nat.add_assoc, Nat.div_add_mod]

/-- value-shift form (C big-endian branch) -/
theorem execEncBE_ok (U : Nat) : ItemOk (execEncBE U) U := by
  intro s i j c hs hi _ hc2 hz
  simp only [execEncBE, mkEnc, List.getElem?_eq_getElem hi]
  refine ⟨_, rfl, execItem_wrote hs hi hc2 hz (by simp) fun p => ?_⟩
  rw [← Int.add_sub_assoc, ← Int.natCast_add, Nat.div_add_mod, chunk_testBit]

theorem runEnc_wrote {f : Item → List Nat → Except Exc (List Nat)} {U : Nat} (hf : ItemOk f U) (n : Nat) :
    ∀ (fuel i j : Nat), n - j ≤ fuel → ∀ (s : List Nat), AllBytes s → i + (n - j) ≤ 8 * s.length →
    (∀ p, i ≤ p → (bytesToNat s).testBit p = false) →
    ∃ s', runEnc f (planLeaf true n fuel i j) s = .ok s' ∧ Wrote s s' i (n - j) (fun k => U.testBit (j + k)) := by
  refine chunk_induction n ?_ ?_
  · intro fuel i j hj s hs _ _
    rw [Nat.sub_eq_zero_of_le hj]
    exact ⟨s, by cases fuel <;> simp [planLeaf, runEnc, Nat.not_lt.2 hj], .zero hs i _⟩
  · intro fuel i j c hlt hc _ hsum hc1 hc2 ih s hs hroom hz
    rw [Nat.add_assoc, ← hsum] at ih
    obtain ⟨s1, e1, w1⟩ := hf s i j c hs (div8_lt_of_room (Nat.sub_pos_of_lt hlt) hroom) hc1 hc2 hz
    obtain ⟨s2, e2, w2⟩ := ih s1 w1.bytes (w1.length ▸ hroom) fun p hp => w1.placed.clean hz hp
    exact ⟨s2, by simp only [planLeaf, hlt, if_true, hc, runEnc, e1, e2],
      w1.trans w2 rfl hsum fun k => by rw [Nat.add_assoc]⟩

theorem writes_opLeaf (d : Dialect) (n : Nat) (hn : n ≤ 64) (x : Int) : Writes (encLeaf d n x) (leafBits n x) := by
  refine Writes.iff_wrote.2 fun s i hs hroom hz => ?_
  rw [leafBits_length] at hroom ⊢
  obtain ⟨hsz, _, _⟩ := CRt.storageSize_bounds n hn
  have key : ∀ {f}, ItemOk f (tc x (8 * CRt.storageSize n)) →
      (encLeaf d n x s i = match runEnc f (planLeaf true n n i 0) s with
        | .error e => .error e
        | .ok s' => .ok (s', i + n)) →
      ∃ s', encLeaf d n x s i = .ok (s', i + n) ∧ Wrote s s' i n (bitAt (leafBits n x)) := fun hf hd =>
    have ⟨s', e, w⟩ := runEnc_wrote hf n n i 0 (by omega) s hs (by omega) hz
    ⟨s', by rw [hd, e], w.congr fun k hk => by rw [Nat.zero_add]; exact tc_testBit_leaf x (by omega) hsz⟩
  cases d with
  | cLE => exact key (execEnc_ok true _) rfl
  | go => exact key (execEnc_ok false _) rfl
  | cBE => exact key (execEncBE_ok _) rfl

theorem opEncode_eq_spec (d : Dialect) (t : Ty) (v : Val) (hne : Wire.noExt t = true) (hwf : t.wf = true)
    (h : shape t v = true) : Wire.encodeWith (encLeaf d) t v = .ok (Spec.encode t v) :=
  Wire.encodeWith_eq_spec _ (writes_opLeaf d) t v hne hwf h

theorem runDec_spec (n : Nat) (s : List Nat) (hs : AllBytes s) :
    ∀ (fuel i j : Nat), n - j ≤ fuel → ∀ (u : Nat), i + (n - j) ≤ 8 * s.length →
    ∃ u', runDec s (planLeaf false n fuel i j) u = .ok u' ∧
      Placed u.testBit u'.testBit j (n - j) (fun q => (bytesToNat s).testBit (i + q)) := by
  refine chunk_induction n ?_ ?_
  · intro fuel i j hj u _
    rw [Nat.sub_eq_zero_of_le hj]
    exact ⟨u, by cases fuel <;> simp [planLeaf, runDec, Nat.not_lt.2 hj], .zero _ j _⟩
  · intro fuel i j c hlt hc _ hsum _ hc2 ih u hroom
    rw [Nat.add_assoc, ← hsum] at ih
    have hi : i / 8 < s.length := div8_lt_of_room (Nat.sub_pos_of_lt hlt) hroom
    simp only [planLeaf, hlt, if_true, hc, Bool.false_eq_true, if_false, runDec, execDec, mkDec,
      List.getElem?_eq_getElem hi]
    obtain ⟨u', e, b⟩ := ih _ hroom
    exact ⟨u', e, Placed.trans (fun p => by rw [Nat.testBit_or, decD_testBit s hs i j c p hi hc2]) b rfl hsum
      fun k => by rw [Nat.add_assoc]⟩

/-- **the leaf decoder (one form for all dialects), into a zeroed field, reads exactly the wire value** (and the
sign statement extends it) -/
theorem decLeaf_ok : Wire.ReaderOk decLeaf := by
  have hread : ∀ n s, AllBytes s → ∀ i, i + n ≤ 8 * s.length →
      runDec s (planLeaf false n n i 0) 0 = .ok (readNat (bytesToNat s) i n) := by
    intro n s hs i hroom
    obtain ⟨u', e, b⟩ := runDec_spec n s hs n i 0 (by omega) 0 hroom
    rw [e, eq_readNat_of_placed b, Nat.sub_zero]
  constructor
  · intro n _ s hs i hroom
    simp [decLeaf, hread n s hs i hroom]
  · intro n hn1 hn s hs i hroom
    simp only [decLeaf, hread n s hs i hroom, if_true]
    rw [CRt.sgn_signFix _ _ _ hn1 (CRt.storageSize_bounds n hn).1 (readNat_lt _ _ _) (CRt.storageSize_std n)]

theorem planChunks_cover (n : Nat) : ∀ (fuel i j : Nat), n - j ≤ fuel →
    (planChunks n fuel i j).sum = n - j ∧ ∀ c ∈ planChunks n fuel i j, 0 < c ∧ c ≤ 8 := by
  refine chunk_induction n ?_ ?_
  · intro fuel i j hj
    have : planChunks n fuel i j = [] := by cases fuel <;> simp [planChunks, Nat.not_lt.2 hj]
    rw [this]
    exact ⟨(Nat.sub_eq_zero_of_le hj).symm, fun _ h => nomatch h⟩
  · intro fuel i j c hlt hc hc0 hsum _ hc2 ih
    obtain ⟨hs, hm⟩ := ih
    simp only [planChunks, hlt, if_true, hc, List.sum_cons, List.mem_cons, hs]
    exact ⟨hsum.symm,
      fun d hd => hd.elim (fun e => e ▸ ⟨hc0, Nat.le_trans hc2 (Nat.sub_le _ _)⟩) (hm d)⟩

end Bp.OpMode
