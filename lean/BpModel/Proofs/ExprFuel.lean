import BpModel.Model.Expr
/-!
# Fuel adequacy of the expression parser and tokenizer

Every successful step consumes input, so the fuel `2·|tokens| + 2` (resp. `|text|`) is never exhausted — `none`
always means a syntax error, never "ran out of steps".  `fuel_beyond` is the step from "one more unit changes nothing"
to "any amount beyond `N` gives the answer at `N`"; the import recursion (`FrontFuel`, C09) uses it as well.
-/
namespace Bp

theorem fuel_beyond {α} (g : Nat → α) (N : Nat) (h : ∀ f, N ≤ f → g (f + 1) = g f) : ∀ k, g (N + k) = g N
  | 0 => rfl
  | k+1 => (h (N + k) (Nat.le_add_right N k)).trans (fuel_beyond g N h k)

end Bp

namespace Bp.Expr

/-- successful parses consume input -/
theorem consumes : ∀ (f : Nat),
    (∀ ts e ts', parseAtom f ts = some (e, ts') → ts'.length < ts.length) ∧
    (∀ p ts e ts', parseExpr f p ts = some (e, ts') → ts'.length < ts.length) ∧
    (∀ p l ts e ts', parseLoop f p l ts = some (e, ts') → ts'.length ≤ ts.length)
  | 0 => ⟨fun _ _ _ h => (nomatch h), fun _ _ _ _ h => (nomatch h), fun _ _ _ _ _ h => (nomatch h)⟩
  | f+1 => by
    obtain ⟨ihA, ihX, ihL⟩ := consumes f
    refine ⟨fun ts e ts' h => ?_, fun p ts e ts' h => ?_, fun p l ts e ts' h => ?_⟩
    · cases ts with
      | nil => cases h
      | cons t t1 =>
        cases t with
        | num _ | ref _ => cases h; exact Nat.lt_succ_self _
        | lp =>
          unfold parseAtom at h
          split at h
          · rename_i hx
            cases h
            exact Nat.lt_succ_of_lt (Nat.lt_of_succ_lt (ihX _ _ _ _ hx))
          · cases h
        | _ => cases h
    · unfold parseExpr at h
      split at h
      · rename_i ha
        exact Nat.lt_of_le_of_lt (ihL _ _ _ _ _ h) (ihA _ _ _ ha)
      · cases h
    · cases ts with
      | nil => cases h; exact Nat.le_refl _
      | cons t t1 =>
        cases t with
        | op o =>
          unfold parseLoop at h
          split at h
          · split at h
            · rename_i hx
              exact Nat.le_succ_of_le (Nat.le_trans (ihL _ _ _ _ _ h) (Nat.le_of_lt (ihX _ _ _ _ hx)))
            · cases h
          · cases h; exact Nat.le_refl _
        | _ => cases h; exact Nat.le_refl _

/-- one more unit of fuel changes nothing once the fuel covers the input.  A token costs two units: the calls
`parseExpr → parseAtom` and `parseLoop → parseExpr` spend one without consuming, the call after consumes; `parseExpr`
needs one more for its own descent — hence `2·|ts| + 1` and `2·|ts| + 2`. -/
theorem stable : ∀ (f : Nat),
    (∀ ts, 2 * ts.length + 1 ≤ f → parseAtom (f + 1) ts = parseAtom f ts) ∧
    (∀ p ts, 2 * ts.length + 2 ≤ f → parseExpr (f + 1) p ts = parseExpr f p ts) ∧
    (∀ p l ts, 2 * ts.length + 1 ≤ f → parseLoop (f + 1) p l ts = parseLoop f p l ts)
  | 0 => ⟨fun _ h => absurd h (Nat.not_succ_le_zero _), fun _ _ h => absurd h (Nat.not_succ_le_zero _),
      fun _ _ _ h => absurd h (Nat.not_succ_le_zero _)⟩
  | f+1 => by
    obtain ⟨ihA, ihX, ihL⟩ := stable f
    obtain ⟨cA, cX, _⟩ := consumes f
    refine ⟨fun ts h => ?_, fun p ts h => ?_, fun p l ts h => ?_⟩
    · cases ts with
      | nil => rfl
      | cons t t1 =>
        cases t with
        | lp =>
          unfold parseAtom
          rw [ihX 1 t1 (by simp at h; omega)]
        | _ => rfl
    · unfold parseExpr
      rw [ihA ts (Nat.le_of_succ_le_succ h)]
      cases ha : parseAtom f ts with
      | none => rfl
      | some r => exact ihL p _ _ (by have := cA _ _ _ ha; omega)
    · cases ts with
      | nil => rfl
      | cons t t1 =>
        cases t with
        | op o =>
          unfold parseLoop
          split
          · rw [ihX _ t1 (by simp at h; omega)]
            cases hx : parseExpr f (o.prec + 1) t1 with
            | none => rfl
            | some r => exact ihL p _ _ (by have := cX _ _ _ _ hx; simp at h; omega)
          · rfl
        | _ => rfl

theorem parseExpr_fuel (p : Nat) (ts : List Tok) (k : Nat) :
    parseExpr (2 * ts.length + 2 + k) p ts = parseExpr (2 * ts.length + 2) p ts :=
  fuel_beyond (parseExpr · p ts) _ (fun f hf => (stable f).2.1 p ts hf) k

theorem takeWhileAcc_len (p : Char → Bool) : ∀ (cs acc : List Char), (takeWhileAcc p cs acc).2.length ≤ cs.length
  | [], _ => Nat.le_refl _
  | c :: cs, acc => by
    unfold takeWhileAcc
    by_cases h : p c = true
    · rw [if_pos h]; exact Nat.le_succ_of_le (takeWhileAcc_len p cs (c :: acc))
    · rw [if_neg h]; exact Nat.le_refl _

theorem takeWhileAcc_len_cons (p : Char → Bool) (c : Char) (cs acc : List Char) (h : p c = true) :
    (takeWhileAcc p (c :: cs) acc).2.length ≤ cs.length := by
  unfold takeWhileAcc
  rw [if_pos h]
  exact takeWhileAcc_len p cs (c :: acc)

theorem tokenize_stable : ∀ (f : Nat) (cs : List Char), cs.length ≤ f → tokenize (f + 1) cs = tokenize f cs
  | 0, [], _ => rfl
  | 0, _ :: _, h => by simp at h
  | f+1, [], _ => rfl
  | f+1, c :: cs, h => by
    have hcs : cs.length ≤ f := Nat.le_of_succ_le_succ h
    -- every recursive call is on a list no longer than `cs`
    have ih : ∀ r, r.length ≤ cs.length → tokenize (f + 1) r = tokenize f r :=
      fun r hr => tokenize_stable f r (Nat.le_trans hr hcs)
    have hex := ih _ (Nat.le_trans (takeWhileAcc_len isHex cs.tail []) (by simp))
    unfold tokenize
    dsimp only
    rw [ih cs (Nat.le_refl _), hex]
    by_cases hd : isDigit c = true
    · rw [if_pos hd, if_pos hd, ih _ (takeWhileAcc_len_cons isDigit c cs [] hd)]
    rw [if_neg hd, if_neg hd]
    by_cases hi : isIdStart c = true
    · rw [if_pos hi, if_pos hi, ih _ (takeWhileAcc_len_cons isIdChar c cs [] (by simp [isIdChar, hi]))]
    · rw [if_neg hi, if_neg hi]

end Bp.Expr
