import BpModel.Gen.FmtHelpers
import BpModel.Model.Helpers
import BpModel.Model.Spec
import BpModel.Model.CRt
/-!
# Bridge (T): compiler helpers as the source reads now = the clean definitions
`Type.nbytes`, `Formatter.get_nbits_of_integer`, `Formatter.op_mode_get_mask`.
-/
namespace Bp.Bridge
open Bp.Gen.FmtHelpers

/-- `Type.nbytes()` is `⌈nbits/8⌉` (for every message size the compiler admits, and beyond) -/
theorem type_nbytes_eq (n : Nat) : type_nbytes n = (nbytes n : Nat) := by
  simp only [type_nbytes, nbytes, PyOp.mod, PyOp.fdiv, PyOp.add,
    Int.fmod_eq_emod_of_nonneg _ (by decide : (0:Int) ≤ 8), Int.fdiv_eq_ediv_of_nonneg _ (by decide : (0:Int) ≤ 8)]
  split <;> omega

/-- storage width chosen by the compiler = smallest of 8/16/32/64 covering the width, and it is
the width the C runtime assumes on a big-endian host (`BpBaseTypeStorageSize`) -/
theorem get_nbits_of_integer_eq : ∀ n : Fin 65, 1 ≤ n.val →
    get_nbits_of_integer (type_nbytes n.val) = (storageBits n.val : Nat) ∧
    storageBits n.val = 8 * CRt.storageSize n.val := by
  decide +kernel

/-- the compile-time mask of optimization mode is the runtime's mask -/
theorem op_mode_get_mask_eq : ∀ k : Fin 8, ∀ c : Fin 9, op_mode_get_mask k.val c.val = (getMask k.val c.val : Nat) := by
  decide +kernel

end Bp.Bridge
