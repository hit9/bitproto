import BpModel.Model.Wire
import BpModel.Proofs.PyEnc
import BpModel.Proofs.RoundTrip
/-!
# Generic tree theorems for straight-line (optimization mode) encoders / decoders
-/
namespace Bp.Wire
open PyRt

theorem noExt_array {ext : Bool} {cap : Nat} {e : Ty} (h : noExt (.array ext cap e) = true) :
    ext = false ∧ noExt e = true := by
  have h : (!ext && noExt e) = true := h
  simpa only [Bool.and_eq_true, Bool.not_eq_true'] using h

theorem noExt_msg {ext : Bool} {fs : List (Nat × Ty)} (h : noExt (.msg ext fs) = true) :
    ext = false ∧ noExtFields fs = true := by
  have h : (!ext && noExtFields fs) = true := h
  simpa only [Bool.and_eq_true, Bool.not_eq_true'] using h

theorem noExtFields_cons {k : Nat} {t : Ty} {fs : List (Nat × Ty)} (h : noExtFields ((k, t) :: fs) = true) :
    noExt t = true ∧ noExtFields fs = true :=
  Bool.and_eq_true_iff.1 h

mutual
theorem writes_encWith (L : Nat → Int → Act) (hL : ∀ n, n ≤ 64 → ∀ x, Writes (L n x) (leafBits n x)) :
    ∀ (t : Ty) (v : Val), noExt t = true → t.wf = true → shape t v = true →
    Writes (encWith L t v) (Spec.bits t v)
  | .bool | .byte | .uint _ | .int _ | .enum _ _ => fun v _ hwf h => by
    obtain ⟨x, rfl⟩ := shape_scalar rfl h
    exact hL _ (wf_scalar rfl hwf).1 x
  | .alias t => fun v hne hwf => writes_encWith L hL t v hne (wf_alias hwf)
  | .array _ _ e => fun v hne hwf h => by
    obtain ⟨vs, rfl, rfl, hall⟩ := shape_array h
    obtain ⟨rfl, hne⟩ := noExt_array hne
    exact writes_arr _ _ vs fun v hv => writes_encWith L hL e v hne (wf_array hwf).2.2 (hall v hv)
  | .msg _ fs => fun v hne hwf h => by
    obtain ⟨vs, rfl, h⟩ := shape_msg h
    obtain ⟨rfl, hne⟩ := noExt_msg hne
    exact writes_encFieldsWith L hL fs vs hne (wf_msg hwf).2 h
theorem writes_encFieldsWith (L : Nat → Int → Act) (hL : ∀ n, n ≤ 64 → ∀ x, Writes (L n x) (leafBits n x)) :
    ∀ (fs : List (Nat × Ty)) (vs : List Val), noExtFields fs = true → wfFields fs = true →
    shapeFields fs vs = true → Writes (encFieldsWith L fs vs) (Spec.bitsFields fs vs)
  | [], [] => fun _ _ _ => Writes.nil
  | (_, t) :: fs, v :: vs => fun hne hwf h => by
    have h := shapeFields_cons h
    apply Writes.seq (writes_encWith L hL t v (noExtFields_cons hne).1 (wfFields_cons hwf).1 h.1)
      (writes_encFieldsWith L hL fs vs (noExtFields_cons hne).2 (wfFields_cons hwf).2 h.2)
  | [], _ :: _ | _ :: _, [] => fun _ _ h => by simp [shapeFields] at h
end

theorem encodeWith_eq_spec (L : Nat → Int → Act) (hL : ∀ n, n ≤ 64 → ∀ x, Writes (L n x) (leafBits n x))
    (t : Ty) (v : Val) (hne : noExt t = true) (hwf : t.wf = true) (h : shape t v = true) :
    encodeWith L t v = .ok (Spec.encode t v) :=
  (writes_encWith L hL t v hne hwf h).encode h

/-- what a dialect's leaf reader must do: unsigned and signed leaves inside the buffer (it says nothing about reads
that leave the buffer, so two readers that meet it need not agree there) -/
structure ReaderOk (D : Reader) : Prop where
  unsigned : ∀ n, n ≤ 64 → ∀ s, AllBytes s → ∀ i, i + n ≤ 8 * s.length →
    D false n s i = .ok ((readNat (bytesToNat s) i n : Nat), i + n)
  signed : ∀ n, 1 ≤ n → n ≤ 64 → ∀ s, AllBytes s → ∀ i, i + n ≤ 8 * s.length →
    D true n s i = .ok (sgn (readNat (bytesToNat s) i n) n, i + n)

theorem wdecArr_refines {f : Nat → Except Exc (Val × Nat)} {d : Nat → Option (Val × Nat)}
    (h : ∀ j, Refines (d j) (f j)) : ∀ (k i : Nat), Refines (Bp.decArrWith d k i) (Wire.decArrWith f k i)
  | 0, _ => .pure _
  | k+1, i => .cons (h i) (wdecArr_refines h k)

mutual
theorem decWith_refines (D : Reader) (hD : ReaderOk D) : ∀ (t : Ty) (s : List Nat) (i : Nat),
    AllBytes s → noExt t = true → t.wf = true →
    Refines (Spec.dec t (bytesToNat s) (8 * s.length) i) (decWith D t s i)
  | .bool | .byte | .uint _ | .enum _ _ => fun s i hs _ hwf =>
    .leaf (hD.unsigned _ (wf_scalar rfl hwf).1 s hs i)
  | .int n => fun s i hs _ hwf =>
    .leaf (hD.signed n ((wf_scalar rfl hwf).2 rfl) (wf_scalar rfl hwf).1 s hs i)
  | .alias t => fun s i hs hne hwf => decWith_refines D hD t s i hs hne (wf_alias hwf)
  | .array _ cap e => fun s i hs hne hwf => by
    obtain ⟨rfl, hne⟩ := noExt_array hne
    apply Refines.node (wdecArr_refines (fun j => decWith_refines D hD e s j hs hne (wf_array hwf).2.2) cap i)
  | .msg _ fs => fun s i hs hne hwf => by
    obtain ⟨rfl, hne⟩ := noExt_msg hne
    exact .node fun r h => decFieldsWith_refines D hD fs s i r hs hne (wf_msg hwf).2 h
theorem decFieldsWith_refines (D : Reader) (hD : ReaderOk D) : ∀ (fs : List (Nat × Ty)) (s : List Nat) (i : Nat)
    (r : List Val × Nat), AllBytes s → noExtFields fs = true → wfFields fs = true →
    Spec.decFields fs (bytesToNat s) (8 * s.length) i = some r → decFieldsWith D fs s i = .ok r
  | [] => fun _ _ r _ _ _ hd => Refines.pure _ r hd
  | (_, t) :: fs => fun s i r hs hne hwf hd =>
    Refines.cons (decWith_refines D hD t s i hs (noExtFields_cons hne).1 (wfFields_cons hwf).1)
      (fun j r h => decFieldsWith_refines D hD fs s j r hs (noExtFields_cons hne).2 (wfFields_cons hwf).2 h) r hd
end

theorem decodeWith_roundtrip (D : Reader) (hD : ReaderOk D) (t : Ty) (v : Val) (hne : noExt t = true)
    (hwf : t.wf = true) (hr : inRange t v = true) :
    decodeWith D t (Spec.encode t v) = .ok v := by
  simp only [decodeWith, decWith_refines D hD t (Spec.encode t v) 0 (natToBytes_allBytes _ _) hne hwf _
    (spec_roundtrip t v hwf hr)]

end Bp.Wire
