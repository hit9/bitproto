import BpModel.Model.PyInt
import BpModel.Proofs.Bits
/-!
# Python integer operators: bit-level characterisation
`tb x k` is bit `k` of the infinite two's complement of `x`; `or/and/shr/shl` act bitwise on it.
-/
namespace Bp.PyInt

@[simp] theorem tb_ofNat (n k : Nat) : tb (n : Int) k = n.testBit k := rfl
@[simp] theorem tb_ofNat' (n k : Nat) : tb (Int.ofNat n) k = n.testBit k := rfl
@[simp] theorem tb_negSucc (n k : Nat) : tb (Int.negSucc n) k = !n.testBit k := rfl

theorem andNot_testBit (n m k : Nat) : (andNot n m).testBit k = (n.testBit k && !m.testBit k) := by
  simp only [andNot, Nat.testBit_xor, Nat.testBit_and]
  cases n.testBit k <;> cases m.testBit k <;> rfl

/- `or` and `and` are written by sign case, a negative number through its complement (De Morgan): in each of the four
cases both sides are a boolean function of bit `k` of the two magnitudes, and the truth table decides. -/
theorem tb_or (a b : Int) (k : Nat) : tb (or a b) k = (tb a k || tb b k) := by
  cases a <;> cases b <;> simp [or, tb, andNot_testBit, Nat.testBit_or, Nat.testBit_and]
  all_goals (rename_i m n; cases m.testBit k <;> cases n.testBit k <;> rfl)

theorem tb_and (a b : Int) (k : Nat) : tb (and a b) k = (tb a k && tb b k) := by
  cases a <;> cases b <;> simp [and, tb, andNot_testBit, Nat.testBit_or, Nat.testBit_and]
  all_goals (rename_i m n; cases m.testBit k <;> cases n.testBit k <;> rfl)

theorem tb_shr (x : Int) (r k : Nat) : tb (shr x r) k = tb x (r + k) := by
  cases x with
  | ofNat m => show ((m >>> r : Nat)).testBit k = _; rw [Nat.testBit_shiftRight]; rfl
  | negSucc m => show (!((m >>> r : Nat)).testBit k) = _; rw [Nat.testBit_shiftRight]; rfl

theorem shl_ofNat (d l : Nat) : shl (d : Int) l = ((d <<< l : Nat) : Int) := by
  simp [shl, Nat.shiftLeft_eq]

theorem tb_shl_ofNat (d l k : Nat) : tb (shl (d : Int) l) k = (decide (l ≤ k) && d.testBit (k - l)) := by
  rw [shl_ofNat, tb_ofNat, Nat.testBit_shiftLeft]

/-- `Int.pow` on a non-negative base is the cast of `Nat.pow` by definition; in the cast form `omega` sees a
natural number -/
theorem two_pow_cast (n : Nat) : (2:Int)^n = ((2^n : Nat) : Int) := rfl

theorem tb_sub_two_pow {u n : Nat} (hu : u < 2^n) (k : Nat) :
    tb ((u : Int) - (2:Int)^n) k = (u.testBit k || decide (n ≤ k)) := by
  -- `(2:Int)^n` is the cast of `2^n` by definition, and `-` on casts is `Int.subNatNat`
  have : (u : Int) - (2:Int)^n = Int.negSucc (2^n - (u + 1)) :=
    Int.subNatNat_eq_coe.symm.trans (Int.subNatNat_of_lt hu)
  rw [this, tb_negSucc, Nat.testBit_two_pow_sub_succ hu, Bool.not_and, Bool.not_not, Bool.or_comm, ← decide_not]
  exact congrArg (_ || ·) (decide_eq_decide.2 Nat.not_lt)

theorem tb_neg_two_pow (n k : Nat) : tb (-((2:Int)^n)) k = decide (n ≤ k) := by
  rw [← Int.zero_sub, ← Int.natCast_zero, tb_sub_two_pow (Nat.two_pow_pos n), Nat.zero_testBit, Bool.false_or]

theorem eq_of_tb_eq (a b : Int) (h : ∀ k, tb a k = tb b k) : a = b := by
  -- a non-negative and a negative number differ at bit `m + n`, beyond both magnitudes
  have far : ∀ m n : Nat, m.testBit (m + n) = false ∧ n.testBit (m + n) = false := fun m n =>
    ⟨testBit_of_lt_two_pow Nat.lt_two_pow_self (Nat.le_add_right m n),
     testBit_of_lt_two_pow Nat.lt_two_pow_self (Nat.le_add_left n m)⟩
  match a, b with
  | .ofNat m, .ofNat n => exact congrArg _ (Nat.eq_of_testBit_eq h)
  | .ofNat m, .negSucc n => have := h (m + n); simp [tb, far m n] at this
  | .negSucc m, .ofNat n => have := h (m + n); simp [tb, far m n] at this
  | .negSucc m, .negSucc n =>
    exact congrArg _ (Nat.eq_of_testBit_eq fun k => by simpa [tb] using h k)

theorem tb_one (k : Nat) : tb 1 k = decide (k = 0) :=
  (Nat.testBit_two_pow (n := 0)).trans (decide_eq_decide.2 eq_comm)

theorem and_one (y : Int) : and y 1 = if tb y 0 then 1 else 0 := by
  refine eq_of_tb_eq _ _ fun k => ?_
  rw [tb_and]
  by_cases hk : k = 0
  · subst hk; cases tb y 0 <;> rfl
  · have : tb 0 k = false := Nat.zero_testBit k
    cases tb y 0 <;> simp [hk, tb_one, this]

end Bp.PyInt
