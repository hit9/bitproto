import BpModel.Proofs.Spec
import BpModel.Model.Exc
/-!
# A runtime decoder refines the specification decoder

`Refines o x`: whenever the specification's computation `o` has a result, the runtime's `x`
succeeds with the same.  One way only: where `Spec.dec` has no result (a read beyond the buffer, e.g. behind a
hostile prefix) the runtimes raise `IndexError` / `.oob` and nothing is claimed.  `Spec.dec` and the decoders of the
runtimes are written in the same shapes — a checked read; an element, then the rest; a body; a 16-bit prefix, the
body, the skip the prefix asks for — and one lemma per shape carries refinement through it (`.cons` and `.ahead` end
in `.node`, the step they share).  The lemmas apply to the definitions themselves, which unfold to these shapes
(with `apply`, the shape is matched against the unfolded definition once; with `exact` it is matched twice).
-/
namespace Bp

def Refines {α} (o : Option α) (x : Except Exc α) : Prop := ∀ r, o = some r → x = .ok r

theorem Refines.pure {α} (a : α) : Refines (some a) (.ok a) := fun _ h => by cases h; rfl

theorem Refines.of_none {α} (x : Except Exc α) : Refines none x := fun _ h => nomatch h

/-- a leaf: `x` reads wire bits `[i, i + n)` as `c` does, provided they are inside the buffer -/
theorem Refines.leaf {W L i n : Nat} {c : Nat → Int} {x : Except Exc (Int × Nat)} :
    (i + n ≤ L → x = .ok (c (readNat W i n), i + n)) →
    Refines ((readB W L i n).map fun u => (Val.int (c u), i + n)) (x.map fun r => (Val.int r.1, r.2)) := by
  intro hx
  unfold readB
  by_cases hroom : i + n ≤ L
  · rw [if_pos hroom, hx hroom]
    exact .pure _
  · rw [if_neg hroom]
    exact .of_none _

/-- a body, then `F` of its values and cursor (an array or message without prefix wraps the values and keeps the
cursor) -/
theorem Refines.node {β} {F : List Val → Nat → β} {o : Option (List Val × Nat)} {x : Except Exc (List Val × Nat)} :
    Refines o x →
    Refines (match o with
        | none => none
        | some (vs, i2) => some (F vs i2))
      (match x with
        | .error e => .error e
        | .ok (vs, i2) => .ok (F vs i2)) := by
  intro h1
  rcases o with _ | ⟨vs, i2⟩
  · exact .of_none _
  · rw [h1 _ rfl]
    exact .pure _

theorem Refines.cons {o : Option (Val × Nat)} {x : Except Exc (Val × Nat)}
    {os : Nat → Option (List Val × Nat)} {xs : Nat → Except Exc (List Val × Nat)} :
    Refines o x → (∀ j, Refines (os j) (xs j)) →
    Refines (match o with
        | none => none
        | some (v, i1) => match os i1 with
          | none => none
          | some (vs, i2) => some (v :: vs, i2))
      (match x with
        | .error e => .error e
        | .ok (v, i1) => match xs i1 with
          | .error e => .error e
          | .ok (vs, i2) => .ok (v :: vs, i2)) := by
  intro h1 h2
  rcases o with _ | ⟨v, i1⟩
  · exact .of_none _
  · rw [h1 _ rfl]
    exact .node (h2 i1)

/-- a body behind the 16-bit prefix of an extensible node, which `a` reads; `next` is where the prefix
says the next sibling starts -/
theorem Refines.ahead {W L i : Nat} {C : List Val → Val} {next : Nat → Nat → Nat} {a : Except Exc (Nat × Nat)}
    {o : Nat → Option (List Val × Nat)} {x : Nat → Except Exc (List Val × Nat)} :
    (i + 16 ≤ L → a = .ok (readNat W i 16, i + 16)) → (∀ j, Refines (o j) (x j)) →
    Refines (match readB W L i 16 with
        | none => none
        | some ahead => match o (i + 16) with
          | none => none
          | some (vs, i2) => some (C vs, next ahead i2))
      (match a with
        | .error e => .error e
        | .ok (ahead, i1) => match x i1 with
          | .error e => .error e
          | .ok (vs, i2) => .ok (C vs, next ahead i2)) := by
  intro ha h2
  unfold readB
  by_cases hroom : i + 16 ≤ L
  · rw [if_pos hroom, ha hroom]
    exact .node (h2 _)
  · rw [if_neg hroom]
    exact .of_none _

end Bp
