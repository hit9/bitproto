import BpModel.Model.Parse
/-!
# The grammar model never runs out of fuel

Every parsing function answers `Good`: a result that
leaves fewer tokens than a bound `n` its input respects, or an error that is not a fuel stop; the
bound is handed from one parsing function to the next (`Good.bind`), so no lengths are added up.
`items` then reads every scope with enough fuel (`GoodBody`), and the fuel bounds (`|tokens| + 1` for
scopes and dotted names, `2·|tokens| + 2` for expressions) are never hit.  `Body.hung` is the ghost
flag that records a fuel stop; it is proved `false`.
-/
namespace Bp.Parse
open Lex Front

def PendOk (pend : Option LexErr) : Prop := pend ≠ some .outOfFuel

theorem lex_notFuel : ∀ {e : LexErr}, PendOk (some e) → (PErr.lex e).isFuel = false
  | .outOfFuel, hp => absurd rfl hp
  | .invalidToken .., _ | .invalidEscape .., _ | .invalidWidth .., _ => rfl

theorem bad_notFuel {pend : Option LexErr} (hp : PendOk pend) : ∀ ts, (bad pend ts).isFuel = false
  | _ :: _ => rfl
  | [] =>
    match pend, hp with
    | none, _ => rfl
    | some _, hp => lex_notFuel hp

theorem optSemi_len (ts : List Token) : (optSemi ts).length ≤ ts.length := by
  unfold optSemi; split <;> simp

theorem optSemi_lt {ts : List Token} {n : Nat} (h : ts.length < n) : (optSemi ts).length < n :=
  Nat.lt_of_le_of_lt (optSemi_len ts) h

theorem optExt_len (ts : List Token) : (optExt ts).2.length ≤ ts.length := by
  unfold optExt; split <;> simp

/-- what a parsing function may answer: a result that satisfies `q`, or an error that is not a fuel stop -/
def Good {α} (q : α → Prop) : P α → Prop
  | .ok a => q a
  | .error e => e.isFuel = false

/-- `Good` goes through a `match` on the answer: a result meets the continuation with `q`, an error stays -/
@[elab_as_elim]
theorem Good.elim {α} {q : α → Prop} {C : P α → Prop} (x : P α) (hx : Good q x)
    (ok : ∀ a, q a → C (.ok a)) (err : ∀ e, e.isFuel = false → C (.error e)) : C x := by
  cases x with
  | ok a => exact ok a hx
  | error e => exact err e hx

theorem Good.bind {α β} {q : α → Prop} {q' : β → Prop} {x : P α} {f : α → P β}
    (hx : Good q x) (hf : ∀ a, q a → Good q' (f a)) : Good q' (x >>= f) :=
  Good.elim x hx hf fun _ h => h

theorem Good.mono {α} {q q' : α → Prop} {x : P α} (hx : Good q x) (h : ∀ a, q a → q' a) : Good q' x :=
  Good.elim x hx h fun _ h => h

@[simp] theorem push_snd (it mem pr) (res : Body × List Token) : (Body.push it mem pr res).2 = res.2 := rfl
@[simp] theorem push_hung (it mem pr) (res : Body × List Token) : (Body.push it mem pr res).1.hung = res.1.hung := rfl
@[simp] theorem last_snd (it : Item) (b : Body) : (Body.last it b).2 = [] := rfl
@[simp] theorem last_hung (it : Item) (b : Body) : (Body.last it b).1.hung = b.hung := rfl
@[simp] theorem stop_snd (e : PErr) : (Body.stop e).2 = [] := rfl
@[simp] theorem stop_hung (e : PErr) : (Body.stop e).1.hung = e.isFuel := rfl

/-- what `items` answers on `n` tokens when its fuel suffices: no more tokens than it got, and no fuel stop inside -/
def GoodBody (n : Nat) (res : Body × List Token) : Prop := res.2.length ≤ n ∧ res.1.hung = false

theorem GoodBody.stop {n : Nat} {e : PErr} (h : e.isFuel = false) : GoodBody n (Body.stop e) := ⟨Nat.zero_le _, h⟩

theorem GoodBody.last {n : Nat} {it : Item} {b : Body} (h : b.hung = false) : GoodBody n (Body.last it b) :=
  ⟨Nat.zero_le _, h⟩

theorem GoodBody.push {n m : Nat} {it mem pr} {res : Body × List Token} (h : GoodBody m res) (hmn : m ≤ n) :
    GoodBody n (Body.push it mem pr res) := ⟨Nat.le_trans h.1 hmn, h.2⟩

section
variable {pend : Option LexErr} (hp : PendOk pend) {n : Nat}
include hp

theorem dottedRest_good : ∀ (f : Nat) (acc : List String) (ts : List Token), ts.length < f → ts.length < n →
    Good (·.2.length < n) (dottedRest pend f acc ts)
  | 0, _, _, h, _ => absurd h (Nat.not_lt_zero _)
  | f+1, acc, ts, h, hn => by
    unfold dottedRest
    split
    · exact dottedRest_good f _ _ (Nat.lt_of_succ_lt (Nat.lt_of_succ_lt_succ h))
        (Nat.lt_of_succ_lt (Nat.lt_of_succ_lt hn))
    · exact bad_notFuel hp _
    · exact hn

theorem dotted_good (s : String) (ts : List Token) (h : ts.length < n) : Good (·.2.length < n) (dotted pend s ts) :=
  dottedRest_good hp _ _ ts (Nat.lt_succ_self _) h

theorem singleType_good (ts : List Token) (h : ts.length ≤ n) : Good (·.2.length < n) (singleType pend ts) := by
  unfold singleType
  split
  iterate 4 exact h
  · exact (dotted_good hp _ _ h).bind fun _ h' => h'
  · exact bad_notFuel hp _

theorem type_good (ts : List Token) (h : ts.length ≤ n) : Good (·.2.length < n) (type_ pend ts) := by
  unfold type_
  refine (singleType_good hp ts h).bind fun (t, ts1) h1 => ?_
  dsimp only
  split
  · have h2 := Nat.lt_of_succ_lt h1
    refine Good.bind (q := (·.2.length < n)) ?_ fun (cap, ts3) h3 => ?_
    · split
      · exact Nat.lt_of_succ_lt h2
      · exact (dotted_good hp _ _ (Nat.lt_of_succ_lt h2)).bind fun _ h' => h'
      · exact bad_notFuel hp _
    · dsimp only
      split
      · exact Nat.lt_of_le_of_lt (optExt_len _) (Nat.lt_of_succ_lt h3)
      · exact bad_notFuel hp _
  · exact h1

/-- the thresholds are those of `Expr.stable` (Proofs/ExprFuel.lean), for the same reason: two units per token -/
theorem expr_good : ∀ (f : Nat),
    (∀ ts, 2 * ts.length + 1 ≤ f → Good (·.2.length < ts.length) (exprAtom pend f ts)) ∧
    (∀ p ts, 2 * ts.length + 2 ≤ f → Good (·.2.length < ts.length) (exprPrec pend f p ts)) ∧
    (∀ p l ts, 2 * ts.length + 1 ≤ f → Good (·.2.length ≤ ts.length) (exprLoop pend f p l ts))
  | 0 => ⟨fun _ h => absurd h (Nat.not_succ_le_zero _), fun _ _ h => absurd h (Nat.not_succ_le_zero _),
      fun _ _ _ h => absurd h (Nat.not_succ_le_zero _)⟩
  | f+1 => by
    obtain ⟨ihA, ihX, ihL⟩ := expr_good f
    refine ⟨fun ts hf => ?_, fun p ts hf => ?_, fun p l ts hf => ?_⟩
    · unfold exprAtom
      split
      · exact Nat.lt_succ_self _
      · exact Nat.lt_succ_self _
      · rename_i s _ r
        exact Good.elim (dotted pend s r) (dotted_good hp s r (Nat.lt_succ_self _)) (fun _ h => h) fun _ h => h
      · rename_i r
        have hX := ihX 1 r (by simp at hf; omega)
        generalize exprPrec pend f 1 r = x at hX
        split
        · exact Nat.lt_succ_of_lt (Nat.lt_of_succ_lt hX)
        · exact bad_notFuel hp _
        · exact hX
      · exact bad_notFuel hp _
    · unfold exprPrec
      refine Good.elim (exprAtom pend f ts) (ihA ts (Nat.le_of_succ_le_succ hf)) (fun (l, ts') hA => ?_) fun _ h => h
      exact (ihL p l ts' (by simp only at hA; omega)).mono fun _ h => Nat.lt_of_le_of_lt h hA
    · unfold exprLoop
      split
      · rename_i t r
        split
        · rename_i o _
          split
          · refine Good.elim (exprPrec pend f (o.prec + 1) r) (ihX _ r (by simp at hf; omega)) (fun (rhs, ts') hX => ?_)
              fun _ h => h
            exact (ihL p _ ts' (by simp at hX hf; omega)).mono fun _ h =>
              Nat.le_succ_of_le (Nat.le_trans h (Nat.le_of_lt hX))
          · exact Nat.le_refl _
        · exact Nat.le_refl _
      · exact Nat.le_refl _

theorem constValue_good (ts : List Token) (h : ts.length ≤ n) : Good (·.2.length < n) (constValue pend ts) := by
  unfold constValue
  split
  · exact h
  · exact h
  · refine ((expr_good hp _).2.1 1 ts (Nat.le_refl _)).bind fun (e, r) hr => ?_
    have hn : r.length < n := Nat.lt_of_lt_of_le hr h
    dsimp only
    split <;> exact hn

theorem optionValue_good (ts : List Token) (h : ts.length ≤ n) : Good (·.2.length < n) (optionValue pend ts) := by
  unfold optionValue
  split
  iterate 4 exact h
  · exact (dotted_good hp _ _ h).bind fun _ h' => h'
  · exact bad_notFuel hp _

theorem expectLit_good (c : Char) (ts : List Token) (h : ts.length ≤ n) :
    Good (·.length < n) (expectLit pend c ts) := by
  unfold expectLit
  split
  · split
    · exact h
    · rfl
  · exact bad_notFuel hp _

theorem field_good (ts : List Token) (h : ts.length ≤ n) : Good (·.2.length < n) (field pend ts) := by
  unfold field
  refine (type_good hp ts h).bind fun (t, ts1) h1 => ?_
  refine Good.bind (q := (·.2.2.length < n)) ?_ fun (name, line, ts2) h2 => ?_
  · split
    · exact Nat.lt_of_succ_lt h1
    · exact Nat.lt_of_succ_lt h1
    · exact bad_notFuel hp _
  refine (expectLit_good hp '=' ts2 (Nat.le_of_lt h2)).bind fun ts3 h3 => ?_
  split
  · exact optSemi_lt (Nat.lt_of_succ_lt h3)
  · exact bad_notFuel hp _

theorem simpleStmt_good (kwd : String) (kl : Nat) (ts : List Token) (h : ts.length ≤ n) :
    Good (·.2.2.length < n) (simpleStmt pend kwd kl ts) := by
  have eq : ∀ {r : List Token}, r.length < n → Good (·.length < n) (expectLit pend '=' r) :=
    fun h => expectLit_good hp '=' _ (Nat.le_of_lt h)
  unfold simpleStmt
  split
  · split
    · exact optSemi_lt h
    · exact bad_notFuel hp _
  · split
    · exact optSemi_lt h
    · exact optSemi_lt (Nat.lt_of_succ_lt h)
    · exact bad_notFuel hp _
    · exact bad_notFuel hp _
  · split
    · refine (dotted_good hp _ _ h).bind fun (p, r1) h1 => ?_
      refine (eq h1).bind fun r2 h2 => ?_
      exact (optionValue_good hp r2 (Nat.le_of_lt h2)).bind fun (v, r3) h3 => optSemi_lt h3
    · exact bad_notFuel hp _
  · split
    · refine (eq h).bind fun r1 h1 => ?_
      exact (type_good hp r1 (Nat.le_of_lt h1)).bind fun (t, r2) h2 => optSemi_lt h2
    · exact bad_notFuel hp _
  · refine (type_good hp ts h).bind fun (t, r1) h1 => ?_
    dsimp only
    split
    · exact optSemi_lt (Nat.lt_of_succ_lt h1)
    · exact bad_notFuel hp _
  · split
    · refine (eq h).bind fun r1 h1 => ?_
      exact (constValue_good hp r1 (Nat.le_of_lt h1)).bind fun (v, r2) h2 => optSemi_lt h2
    · exact bad_notFuel hp _
  · exact bad_notFuel hp _

theorem items_good : ∀ (f : Nat) (sc : Scope) (ts : List Token), ts.length < f → GoodBody ts.length (items pend f sc ts)
  | 0, _, _, hf => absurd hf (Nat.not_lt_zero _)
  | f+1, sc, [], _ => by
    unfold items
    split
    · split
      · exact .stop (lex_notFuel hp)
      · exact ⟨Nat.le_refl _, rfl⟩
    · exact .stop (bad_notFuel hp _)
  | f+1, sc, t :: ts, hf' => by
    have hf : ts.length < f := Nat.lt_of_succ_lt_succ hf'
    -- reading goes on in the same scope at `r`
    have next : ∀ {r : List Token} {it mem pr}, r.length ≤ ts.length →
        GoodBody (ts.length + 1) (Body.push it mem pr (items pend f sc r)) :=
      fun h => (items_good f sc _ (Nat.lt_of_le_of_lt h hf)).push (Nat.le_succ_of_le h)
    -- a body at `r`, and then on in the same scope behind it
    have nest : ∀ {sc' : Scope} {r : List Token} {it it'}, r.length ≤ ts.length → GoodBody (ts.length + 1)
        (if (items pend f sc' r).1.stopped then Body.last it (items pend f sc' r).1
         else Body.push it' none none (items pend f sc (items pend f sc' r).2)) := @fun sc' r _ _ h => by
      have hi := items_good f sc' r (Nat.lt_of_le_of_lt h hf)
      split
      · exact .last hi.2
      · exact next (Nat.le_trans hi.1 h)
    have fld : GoodBody (ts.length + 1) (match field pend (t :: ts) with
        | .error e => Body.stop e
        | .ok (it, r) => Body.push (some it) none none (items pend f sc r)) :=
      Good.elim (field pend (t :: ts)) (field_good hp _ (Nat.le_refl _)) (fun _ h => next (Nat.le_of_lt_succ h))
        fun _ h => .stop h
    unfold items
    split
    · exact next (Nat.le_refl _)
    · split
      · exact next (Nat.le_succ _)
      · exact .stop (bad_notFuel hp _)
    · split
      · exact .stop rfl
      · exact ⟨Nat.le_succ _, rfl⟩
    · split
      · exact nest (Nat.le_add_right _ 4)
      iterate 4 exact .stop (bad_notFuel hp _)
    · split
      · rename_i r
        split
        · rename_i r1 heq
          have := optExt_len r
          rw [heq] at this
          exact nest (Nat.le_succ_of_le (Nat.le_of_succ_le this))
        · exact .stop (bad_notFuel hp _)
      · exact .stop (bad_notFuel hp _)
    · rename_i k _ _ _
      refine Good.elim (simpleStmt pend k t.line ts) (simpleStmt_good hp k t.line ts (Nat.le_refl _))
        (fun (it, pr, r) h => ?_) fun _ h => .stop h
      cases pr with
      | none => exact next (Nat.le_of_lt h)
      | some s =>
        dsimp only
        split
        · exact next (Nat.le_of_lt h)
        · exact .stop rfl
    · split
      · split
        · exact next (Nat.le_succ_of_le (Nat.le_succ_of_le (optSemi_len _)))
        · exact next (Nat.le_succ_of_le (Nat.le_succ_of_le (optSemi_len _)))
        · exact .stop (bad_notFuel hp _)
        · exact fld
      · split
        · exact fld
        · exact .stop rfl
    iterate 4
      split
      · exact .stop rfl
      · exact fld
    · exact .stop rfl

end

end Bp.Parse
