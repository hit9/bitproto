/-! # The code point of a character given by its number (below the surrogates) -/
namespace Bp

theorem toNat_ofNat_small (n : Nat) (h : n < 55296) : (Char.ofNat n).toNat = n := by
  rw [Char.ofNat, dif_pos (Or.inl h)]
  exact UInt32.toNat_ofNatLT ..

end Bp
