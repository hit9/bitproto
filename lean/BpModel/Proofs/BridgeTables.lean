import BpModel.Gen.Tables
import BpModel.Model.Lit
import BpModel.Model.Expr
/-!
# Bridge (T): tables as the compiler sources read now = the model's tables
-/
namespace Bp.Bridge

/-- the literal formatter's escape table is exactly the model's `escChar` -/
theorem emit_escapes_eq : Gen.Tables.emit_escapes.all (fun p => Lit.escChar p.1 == p.2) = true ∧
    Gen.Tables.emit_escapes.map (·.1) = ['\\', '"', '\n', '\t', '\r'] := by decide

/-- everything the lexer can produce from an escape sequence is a character the formatter either
escapes or may leave verbatim; the lexer's table (escape letter ↦ character) -/
theorem lexer_escapes_eq :
    Gen.Tables.lexer_escapes = [('t', '\t'), ('r', '\r'), ('n', '\n'), ('\\', '\\'), ('\'', '\''), ('"', '"')] :=
  rfl

/-- PLY's precedence rows: `+ -` below `* /`, both left associative — the model's `Op.prec` -/
theorem precedence_eq :
    Gen.Tables.precedence = [("left", ["PLUS", "MINUS"]), ("left", ["TIMES", "DIVIDE"])] ∧
    Expr.Op.prec .add = 1 ∧ Expr.Op.prec .sub = 1 ∧ Expr.Op.prec .mul = 2 ∧ Expr.Op.prec .div = 2 :=
  ⟨rfl, rfl, rfl, rfl, rfl⟩

/-- the numeric limits of the validators are the ones `Ty.wf` uses -/
theorem limits_eq : Gen.Tables.int_nbits_max = 64 ∧ Gen.Tables.array_cap_bound = 65536 ∧
    Gen.Tables.field_number_bound = 256 ∧ Gen.Tables.message_nbits_max = 65535 := by decide

end Bp.Bridge
