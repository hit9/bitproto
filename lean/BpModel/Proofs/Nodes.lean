import BpModel.Proofs.Spec
/-!
# What the schema predicates say at each kind of node

The tree theorems recurse on the type alone.  At a node they learn the form of the value from
`shape` / `inRange` by the inversion lemmas below, so no (type, value) combination that these
predicates exclude is ever looked at.  The five leaf kinds are one case: `Ty.isScalar`, of width
`t.nbits`, signed or not.
-/
namespace Bp

/-- the leaf kinds: one integer, `t.nbits` bits on the wire -/
def Ty.isScalar : Ty → Bool
  | .bool | .byte | .uint _ | .int _ | .enum _ _ => true
  | _ => false

/-- the leaf kind that is read back as a two's complement number -/
def Ty.signed : Ty → Bool
  | .int _ => true
  | _ => false

theorem shape_scalar {t : Ty} {v : Val} (ht : t.isScalar = true) (h : shape t v = true) : ∃ x, v = .int x := by
  cases v with
  | int x => exact ⟨x, rfl⟩
  -- any other value: `shape t v` evaluates to `false` on a leaf kind, `t.isScalar` on the others
  | _ => cases t <;> first | cases h | cases ht

theorem shape_array {ext : Bool} {cap : Nat} {e : Ty} {v : Val} (h : shape (.array ext cap e) v = true) :
    ∃ vs, v = .arr vs ∧ vs.length = cap ∧ ∀ w ∈ vs, shape e w = true := by
  cases v <;> simp [shape] at h
  exact ⟨_, rfl, h⟩

theorem shape_msg {ext : Bool} {fs : List (Nat × Ty)} {v : Val} (h : shape (.msg ext fs) v = true) :
    ∃ vs, v = .msg vs ∧ shapeFields fs vs = true := by
  cases v <;> simp [shape] at h
  exact ⟨_, rfl, h⟩

theorem inRange_scalar {t : Ty} {v : Val} (ht : t.isScalar = true) (h : inRange t v = true) :
    ∃ x, v = .int x ∧ if t.signed then -(2:Int)^(t.nbits - 1) ≤ x ∧ x < (2:Int)^(t.nbits - 1)
      else 0 ≤ x ∧ x < (2:Int)^t.nbits := by
  cases v with
  | int x =>
    refine ⟨x, rfl, ?_⟩
    cases t with
    | bool => simp [inRange] at h; simp [Ty.signed, Ty.nbits]; omega
    | byte | uint n | int n => simpa [inRange, Ty.signed, Ty.nbits] using h
    | enum n ms => simp [inRange] at h; exact h.1
    | _ => cases ht
  | _ => cases t <;> first | cases h | cases ht

theorem inRange_array {ext : Bool} {cap : Nat} {e : Ty} {v : Val} (h : inRange (.array ext cap e) v = true) :
    ∃ vs, v = .arr vs ∧ vs.length = cap ∧ ∀ w ∈ vs, inRange e w = true := by
  cases v <;> simp [inRange] at h
  exact ⟨_, rfl, h⟩

theorem inRange_msg {ext : Bool} {fs : List (Nat × Ty)} {v : Val} (h : inRange (.msg ext fs) v = true) :
    ∃ vs, v = .msg vs ∧ inRangeFields fs vs = true := by
  cases v <;> simp [inRange] at h
  exact ⟨_, rfl, h⟩

theorem wf_scalar {t : Ty} (ht : t.isScalar = true) (h : t.wf = true) :
    t.nbits ≤ 64 ∧ (t.signed = true → 1 ≤ t.nbits) := by
  cases t with
  | bool | byte => exact ⟨by decide, nofun⟩
  | uint n | int n =>
    simp only [Ty.wf, Bool.and_eq_true, decide_eq_true_eq] at h
    exact ⟨h.2, fun _ => h.1⟩
  | enum n ms =>
    simp only [Ty.wf, Bool.and_eq_true, decide_eq_true_eq] at h
    exact ⟨h.1.1.2, nofun⟩
  | _ => cases ht

theorem wf_alias {t : Ty} (h : (Ty.alias t).wf = true) : t.wf = true := by
  simp only [Ty.wf, Bool.and_eq_true] at h; exact h.2

theorem wf_array {ext : Bool} {cap : Nat} {e : Ty} (h : (Ty.array ext cap e).wf = true) :
    1 ≤ cap ∧ cap ≤ 65535 ∧ e.wf = true := by
  simp only [Ty.wf, Bool.and_eq_true, decide_eq_true_eq] at h; exact ⟨h.1.1.1, h.1.1.2, h.2⟩

theorem wf_msg {ext : Bool} {fs : List (Nat × Ty)} (h : (Ty.msg ext fs).wf = true) :
    extBits ext + fieldsBits fs ≤ 65535 ∧ wfFields fs = true := by
  simp only [Ty.wf, Bool.and_eq_true, decide_eq_true_eq] at h; exact ⟨h.1.2, h.2⟩

theorem wfFields_cons {k : Nat} {t : Ty} {fs : List (Nat × Ty)} (h : wfFields ((k, t) :: fs) = true) :
    t.wf = true ∧ wfFields fs = true := by
  simpa only [wfFields, Bool.and_eq_true] using h

theorem shapeFields_cons {k : Nat} {t : Ty} {fs : List (Nat × Ty)} {v : Val} {vs : List Val}
    (h : shapeFields ((k, t) :: fs) (v :: vs) = true) : shape t v = true ∧ shapeFields fs vs = true :=
  Bool.and_eq_true_iff.1 h

theorem inRangeFields_cons {k : Nat} {t : Ty} {fs : List (Nat × Ty)} {v : Val} {vs : List Val}
    (h : inRangeFields ((k, t) :: fs) (v :: vs) = true) : inRange t v = true ∧ inRangeFields fs vs = true :=
  Bool.and_eq_true_iff.1 h

theorem length_flatMap_const {α β} {f : α → List β} {n : Nat} (l : List α) (h : ∀ a ∈ l, (f a).length = n) :
    (l.flatMap f).length = l.length * n := by
  rw [List.length_flatMap, List.map_congr_left h, List.map_const', List.sum_replicate_nat]

/-- the value a scalar of width `n` is read back as from its `n` wire bits -/
def leafVal (signed : Bool) (n u : Nat) : Val := .int (if signed then sgn u n else (u : Int))

theorem Spec.bits_scalar {t : Ty} (ht : t.isScalar = true) (x : Int) :
    Spec.bits t (.int x) = leafBits t.nbits x := by
  cases t <;> first | rfl | cases ht

theorem Spec.dec_scalar {t : Ty} (ht : t.isScalar = true) (W L i : Nat) :
    Spec.dec t W L i = (readB W L i t.nbits).map fun u => (leafVal t.signed t.nbits u, i + t.nbits) := by
  cases t <;> first | rfl | cases ht

/-! ### what the predicates imply for every tree
The names carry `PyRt`, but nothing here is specific to Python: the C and optimisation-mode theorems use them too. -/
namespace PyRt

mutual
theorem bits_length : ∀ (t : Ty) (v : Val), shape t v = true → (Spec.bits t v).length = t.nbits
  | .bool | .byte | .uint _ | .int _ | .enum _ _ => fun v h => by
      obtain ⟨x, rfl⟩ := shape_scalar rfl h
      exact leafBits_length _ x
  | .alias t => bits_length t
  | .array ext _ e => fun v h => by
      obtain ⟨vs, rfl, rfl, hall⟩ := shape_array h
      simp only [Spec.bits, Ty.nbits, List.length_append, prefix_length,
        length_flatMap_const vs fun v hv => bits_length e v (hall v hv)]
  | .msg ext fs => fun v h => by
      obtain ⟨vs, rfl, h⟩ := shape_msg h
      simp only [Spec.bits, Ty.nbits, List.length_append, prefix_length, bitsFields_length fs vs h]
theorem bitsFields_length : ∀ (fs : List (Nat × Ty)) (vs : List Val), shapeFields fs vs = true →
    (Spec.bitsFields fs vs).length = fieldsBits fs
  | [], [], _ => rfl
  | (_, t) :: fs, v :: vs, h => by
      have h := shapeFields_cons h
      simp only [Spec.bitsFields, fieldsBits, List.length_append, bits_length t v h.1, bitsFields_length fs vs h.2]
  | [], _ :: _, h | _ :: _, [], h => by simp [shapeFields] at h
end

mutual
theorem shape_of_inRange : ∀ (t : Ty) (v : Val), inRange t v = true → shape t v = true
  | .bool | .byte | .uint _ | .int _ | .enum _ _ => fun v h => by
      obtain ⟨x, rfl, _⟩ := inRange_scalar rfl h
      rfl
  | .alias t => shape_of_inRange t
  | .array _ _ e => fun v h => by
      obtain ⟨vs, rfl, hlen, hall⟩ := inRange_array h
      simp only [shape, Bool.and_eq_true, decide_eq_true_eq, List.all_eq_true]
      exact ⟨hlen, fun v hv => shape_of_inRange e v (hall v hv)⟩
  | .msg _ fs => fun v h => by
      obtain ⟨vs, rfl, h⟩ := inRange_msg h
      exact shapeFields_of_inRange fs vs h
theorem shapeFields_of_inRange : ∀ (fs : List (Nat × Ty)) (vs : List Val),
    inRangeFields fs vs = true → shapeFields fs vs = true
  | [], [], _ => rfl
  | (_, t) :: fs, v :: vs, h => by
      have h := inRangeFields_cons h
      exact Bool.and_eq_true_iff.2 ⟨shape_of_inRange t v h.1, shapeFields_of_inRange fs vs h.2⟩
  | [], _ :: _, h | _ :: _, [], h => by simp [inRangeFields] at h
end

end PyRt

end Bp
