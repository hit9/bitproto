import BpModel.Model.Lexer
/-!
# The string-literal rule: the escape loop of `t_STRING_LITERAL` never leaves by an internal error

What the token regular expression matched is a body without line feed in front of the closing quote
(`matchBody_split`) in which every backslash has a successor (`matchBody_wellEsc`); on such a body the index loop
stays in range and within its fuel (`escLoop_total`).
-/
namespace Bp.Lexer

/-- every backslash is followed by a character -/
def wellEsc : List Char → Bool
  | [] => true
  | [c] => c ≠ '\\'
  | c :: d :: r => if c = '\\' then wellEsc r else wellEsc (d :: r)

theorem wellEsc_cons_ne {c : Char} (hc : c ≠ '\\') (b : List Char) : wellEsc (c :: b) = wellEsc b := by
  cases b with
  | nil => simp [wellEsc, hc]
  | cons d r => simp [wellEsc, hc]

/-- the index loop on a well-escaped text: `wellEsc` of what is left is the invariant, fuel `len - i` is enough -/
theorem escLoop_total (s : List Char) : ∀ (f i : Nat) (val : List Char), s.length ≤ i + f → wellEsc (s.drop i) = true →
    escLoop s f i val ≠ .error .indexError ∧ escLoop s f i val ≠ .error .outOfFuel
  | 0, i, val, h, _ => by
    have hi : ¬ i < s.length := Nat.not_lt.mpr h
    simp [escLoop, hi]
  | f+1, i, val, h, hw => by
    unfold escLoop
    by_cases hi : i < s.length
    · rw [List.drop_eq_getElem_cons hi] at hw
      simp only [hi, if_true, List.getElem?_eq_getElem hi]
      by_cases hc : s[i] = '\\'
      · simp only [hc, if_true]
        by_cases hi1 : i + 1 < s.length
        · rw [List.drop_eq_getElem_cons hi1, hc] at hw
          simp only [List.getElem?_eq_getElem hi1]
          cases escTable s[i+1] with
          | none => simp
          | some r => exact escLoop_total s f (i + 2) _ (by omega) (by simpa [wellEsc] using hw)
        · rw [List.drop_eq_nil_of_le (Nat.not_lt.mp hi1), hc] at hw
          simp [wellEsc] at hw
      · simp only [hc, if_false]
        exact escLoop_total s f (i + 1) _ (by omega) (by rwa [wellEsc_cons_ne hc] at hw)
    · simp [hi]

theorem matchBody_split (cs : List Char) : ∀ b r, matchBody cs = some (b, r) → cs = b ++ '"' :: r ∧ '\n' ∉ b := by
  fun_induction matchBody cs <;> intro b r h <;> cases h
  case case2 => simp
  case case4 hnl _ _ hm ih | case8 hnl _ _ hm ih =>
    obtain ⟨e, hn⟩ := ih _ _ hm
    exact ⟨by rw [e]; simp, by simpa [hn] using Ne.symm hnl⟩

theorem matchBody_wellEsc (cs : List Char) : ∀ b r, matchBody cs = some (b, r) → wellEsc b = true := by
  fun_induction matchBody cs <;> intro b r h <;> cases h
  case case2 => rfl
  case case4 hm ih => simpa [wellEsc] using ih _ _ hm
  case case8 c rest _ hne1 hne2 _ _ _ hm ih =>
    rw [wellEsc_cons_ne, ih _ _ hm]
    intro e
    cases rest with
    | nil => exact hne2 e rfl
    | cons d t => exact hne1 d t e rfl

/-- **no internal error in the escape loop**: whatever the token regular expression matched, the
index loop ends with the unescaped value or with `InvalidEscapingChar` — never with an
out-of-range index and never without terminating -/
theorem lexString_total (cs : List Char) (res : Except EscErr (List Char)) (rest : List Char)
    (h : lexString cs = some (res, rest)) : res ≠ .error .indexError ∧ res ≠ .error .outOfFuel := by
  unfold lexString at h
  split at h
  · cases h
  · rename_i body r hm
    cases h
    exact escLoop_total body _ 0 [] (Nat.le_add_left _ _) (matchBody_wellEsc cs body _ hm)

end Bp.Lexer
