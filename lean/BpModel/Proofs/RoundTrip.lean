import BpModel.Proofs.SpecDec
import BpModel.Proofs.PyDecTree
/-!
# Round trip and forward compatibility, assembled
-/
namespace Bp
open PyRt

theorem holds_encode (t : Ty) (v : Val) (hv : shape t v = true) :
    HoldsBits (Spec.bits t v) (bytesToNat (Spec.encode t v)) 0 := by
  intro k hk
  rw [bits_length t v hv] at hk
  have : k < 8 * nbytes t.nbits := Nat.lt_of_lt_of_le hk (le_nbytes _)
  simp [Spec.encode, packed_testBit, this]

mutual
theorem Evo.refl : ∀ (t : Ty), t.wf = true → Evo t t
  | .bool, _ => .bool
  | .byte, _ => .byte
  | .uint _, _ => .uint
  | .int _, _ => .int
  | .enum _ _, _ => .enum
  | .alias t, h => .alias (Evo.refl t (wf_alias h))
  | .array _ _ e, h => .arr (wf_array h).1 (Nat.le_refl _) (fun _ => rfl) (Evo.refl e (wf_array h).2.2)
  | .msg ext fs, h => .msg (EvoFields.refl ext fs (wf_msg h).2)
theorem EvoFields.refl (ext : Bool) : ∀ (fs : List (Nat × Ty)), wfFields fs = true → EvoFields ext fs fs
  | [], _ => .nil
  | (_, t) :: fs, h => .cons (Evo.refl t (wfFields_cons h).1) (EvoFields.refl ext fs (wfFields_cons h).2)
end

mutual
theorem Evo.trans : ∀ {a b c : Ty}, Evo a b → Evo b c → Evo a c
  | _, _, _, .bool, h | _, _, _, .byte, h | _, _, _, .uint, h | _, _, _, .int, h | _, _, _, .enum, h => h
  | _, _, _, .alias h1, .alias h2 => .alias (Evo.trans h1 h2)
  | _, _, _, .arr a1 a2 a3 h1, .arr _ b2 b3 h2 =>
    .arr a1 (Nat.le_trans a2 b2) (fun h => (a3 h).trans (b3 h)) (Evo.trans h1 h2)
  | _, _, _, .msg h1, .msg h2 => .msg (EvoFields.trans h1 h2)
-- on the type, not on the derivation, as for `dec_evo` (here and below)
termination_by structural a => a
theorem EvoFields.trans : ∀ {ext : Bool} {a b c : List (Nat × Ty)},
    EvoFields ext a b → EvoFields ext b c → EvoFields ext a c
  | _, _, _, _, .nil, h => h
  | _, _, _, _, .extra, .cons _ _ => .extra
  | _, _, _, _, .cons h1 t1, .cons h2 t2 => .cons (Evo.trans h1 h2) (EvoFields.trans t1 t2)
termination_by structural _ a => a
end

mutual
theorem evo_nbits_le : ∀ {a b : Ty}, Evo a b → a.nbits ≤ b.nbits
  | _, _, .bool | _, _, .byte | _, _, .uint | _, _, .int | _, _, .enum => Nat.le_refl _
  | _, _, .alias h => (evo_nbits_le h :)
  | _, _, .arr _ h12 _ h => Nat.add_le_add_left (Nat.mul_le_mul h12 (evo_nbits_le h)) _
  | _, _, .msg h => Nat.add_le_add_left (evoFields_bits_le h) _
termination_by structural a => a
theorem evoFields_bits_le : ∀ {ext : Bool} {a b : List (Nat × Ty)}, EvoFields ext a b →
    fieldsBits a ≤ fieldsBits b
  | _, _, _, .nil => Nat.le_refl _
  | _, _, _, .extra => Nat.zero_le _
  | _, _, _, .cons h t => Nat.add_le_add (evo_nbits_le h) (evoFields_bits_le t)
termination_by structural _ a => a
end

mutual
theorem proj_self : ∀ (t : Ty) (v : Val), shape t v = true → Spec.proj t v = v
  | .bool | .byte | .uint _ | .int _ | .enum _ _ => fun _ _ => rfl
  | .alias t => proj_self t
  | .array _ _ e => fun v h => by
    obtain ⟨vs, rfl, rfl, hall⟩ := shape_array h
    refine congrArg Val.arr ?_
    rw [List.take_length, List.map_congr_left fun v hv => proj_self e v (hall v hv), List.map_id']
  | .msg _ fs => fun v h => by
    obtain ⟨vs, rfl, h⟩ := shape_msg h
    exact congrArg Val.msg (projFields_self fs vs h)
theorem projFields_self : ∀ (fs : List (Nat × Ty)) (vs : List Val), shapeFields fs vs = true →
    Spec.projFields fs vs = vs
  | [], [] => fun _ => rfl
  | (_, t) :: fs, v :: vs => fun h => by
    have h := shapeFields_cons h
    show Spec.proj t v :: Spec.projFields fs vs = v :: vs
    rw [proj_self t v h.1, projFields_self fs vs h.2]
  | [], _ :: _ | _ :: _, [] => fun h => by simp [shapeFields] at h
end

theorem spec_dec_evo {S1 S2 : Ty} (hE : Evo S1 S2) (v2 : Val) (hwf : S2.wf = true)
    (hr : inRange S2 v2 = true) :
    Spec.dec S1 (bytesToNat (Spec.encode S2 v2)) (8 * (Spec.encode S2 v2).length) 0 =
      some (Spec.proj S1 v2, S2.nbits) := by
  have := dec_evo hE v2 (bytesToNat (Spec.encode S2 v2)) (8 * (Spec.encode S2 v2).length) 0 hwf hr
    (holds_encode S2 v2 (shape_of_inRange S2 v2 hr))
    (by rw [Spec.encode_length, Nat.zero_add]; exact le_nbytes _)
  rwa [Nat.zero_add] at this

/-- the case `S1 = S2`: the format round-trips -/
theorem spec_roundtrip (t : Ty) (v : Val) (hwf : t.wf = true) (hr : inRange t v = true) :
    Spec.dec t (bytesToNat (Spec.encode t v)) (8 * (Spec.encode t v).length) 0 = some (v, t.nbits) := by
  rw [spec_dec_evo (Evo.refl t hwf) v hwf hr, proj_self t v (shape_of_inRange t v hr)]

theorem py_dec_evo {S1 S2 : Ty} (hE : Evo S1 S2) (v2 : Val) (hwf1 : S1.wf = true) (hz1 : enumZero S1 = true)
    (hwf2 : S2.wf = true) (hr : inRange S2 v2 = true) :
    PyRt.decode S1 (Spec.encode S2 v2) (PyRt.fresh S1) = .ok (Spec.proj S1 v2) := by
  have hlen : ¬ (Spec.encode S2 v2).length < nbytes S1.nbits := by
    rw [Spec.encode_length, Nat.not_lt]
    exact Nat.div_le_div_right (Nat.add_le_add_right (evo_nbits_le hE) 7)
  have hd := dec_refines S1 (Spec.encode S2 v2) 0 (natToBytes_allBytes _ _) hwf1 hz1 _ (spec_dec_evo hE v2 hwf2 hr)
  simp only [PyRt.decode, hlen, if_false, hd]

theorem py_roundtrip (t : Ty) (v : Val) (hwf : t.wf = true) (hz : enumZero t = true) (hr : inRange t v = true) :
    PyRt.decode t (Spec.encode t v) (PyRt.fresh t) = .ok v := by
  have := py_dec_evo (Evo.refl t hwf) v hwf hz hwf hr
  rwa [proj_self t v (shape_of_inRange t v hr)] at this

end Bp
