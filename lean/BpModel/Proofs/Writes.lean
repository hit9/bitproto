import BpModel.Proofs.Nodes
import BpModel.Model.Exc
/-!
# `Writes act chunk`: an encoder action writes exactly a chunk at the cursor

The notion the encoders of all three runtimes are proved against (the name carries `PyRt`, but nothing in it is
specific to Python).  From a cursor `i` above which the buffer is still clean, with room for the chunk, `act`
succeeds, advances the cursor by the chunk's length, keeps every earlier bit and writes exactly `chunk` at
`[i, i + length)`.
The cleanliness is needed by the C runtime and the optimisation-mode C items, which assign (`=`) on the first write
to a byte or word; Python's `|=` alone would not need it.  `Writes.seq` composes actions, `Writes.encode` runs one on
the zero buffer.
-/
namespace Bp.PyRt

abbrev Act := List Nat → Nat → Except Exc (List Nat × Nat)

def Writes (act : Act) (chunk : List Bool) : Prop :=
  ∀ (s : List Nat) (i : Nat), AllBytes s → i + chunk.length ≤ 8 * s.length →
    (∀ p, i ≤ p → (bytesToNat s).testBit p = false) →
    ∃ s', act s i = .ok (s', i + chunk.length) ∧ AllBytes s' ∧ s'.length = s.length ∧
      ∀ p, (bytesToNat s').testBit p =
        ((bytesToNat s).testBit p ||
          (decide (i ≤ p) && decide (p < i + chunk.length) && bitAt chunk (p - i)))

theorem Writes.iff_wrote {act : Act} {chunk : List Bool} : Writes act chunk ↔
    ∀ (s : List Nat) (i : Nat), AllBytes s → i + chunk.length ≤ 8 * s.length →
      (∀ p, i ≤ p → (bytesToNat s).testBit p = false) →
      ∃ s', act s i = .ok (s', i + chunk.length) ∧ Wrote s s' i chunk.length (bitAt chunk) :=
  ⟨fun h s i hs hr hz => have ⟨s', e, a, l, b⟩ := h s i hs hr hz; ⟨s', e, a, l, b⟩,
   fun h s i hs hr hz => have ⟨s', e, w⟩ := h s i hs hr hz; ⟨s', e, w.bytes, w.length, w.placed⟩⟩

theorem Writes.seq {f g : Act} {a b : List Bool} (hf : Writes f a) (hg : Writes g b) :
    Writes (fun s i => match f s i with
      | .error e => .error e
      | .ok (s', i') => g s' i') (a ++ b) := by
  refine Writes.iff_wrote.2 fun s i hs hroom hz => ?_
  rw [List.length_append] at hroom ⊢
  obtain ⟨s1, e1, w1⟩ := Writes.iff_wrote.1 hf s i hs (by omega) hz
  obtain ⟨s2, e2, w2⟩ := Writes.iff_wrote.1 hg s1 (i + a.length) w1.bytes (by rw [w1.length]; omega)
    fun p hp => w1.placed.clean hz hp
  refine ⟨s2, by simp only [e1, e2, Nat.add_assoc], ?_⟩
  refine (w1.congr fun k hk => (bitAt_append_left a b k hk).symm).trans w2 rfl rfl fun k => ?_
  rw [bitAt_append_right a b _ (by omega), Nat.add_sub_cancel_left]

theorem Writes.congr {f g : Act} {c : List Bool} (h : ∀ s i, f s i = g s i) (hg : Writes g c) :
    Writes f c :=
  (funext fun s => funext (h s) : f = g) ▸ hg

theorem Writes.nil : Writes (fun s i => .ok (s, i)) [] :=
  Writes.iff_wrote.2 fun s i hs _ _ => ⟨s, rfl, .zero hs i _⟩

/-- how every runtime's `encode` runs its tree encoder: on the zero buffer of `⌈N/8⌉` bytes, keeping
the buffer.  If the tree encoder writes `Spec.bits`, that buffer is `Spec.encode`. -/
theorem Writes.encode {act : Act} {t : Ty} {v : Val} (hw : Writes act (Spec.bits t v)) (h : shape t v = true) :
    (match act (zeros (nbytes t.nbits)) 0 with
      | .error e => .error e
      | .ok (s, _) => .ok s) = Except.ok (Spec.encode t v) := by
  have hlen := bits_length t v h
  obtain ⟨s', e, w⟩ := Writes.iff_wrote.1 hw (zeros (nbytes t.nbits)) 0 (zeros_allBytes _)
    (by rw [zeros_length, hlen, Nat.zero_add]; exact le_nbytes _) fun p _ => by rw [bytesToNat_zeros, Nat.zero_testBit]
  rw [e]
  refine congrArg Except.ok (eq_of_bits _ _ w.bytes (natToBytes_allBytes _ _) ?_ fun p => ?_)
  · rw [w.length, Spec.encode_length, zeros_length]
  · rw [w.placed p, bytesToNat_zeros, Nat.zero_testBit, Bool.false_or, slice_at_zero, hlen, Spec.encode,
      packed_testBit]
    by_cases hp : p < t.nbits
    · rw [decide_eq_true hp, decide_eq_true (Nat.lt_of_lt_of_le hp (le_nbytes _))]
    · rw [bitAt_of_le _ _ (hlen ▸ Nat.le_of_not_lt hp), Bool.and_false, Bool.and_false]

end Bp.PyRt
