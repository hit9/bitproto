import BpModel.Proofs.CLeaf
import BpModel.Proofs.PyEncTree
import BpModel.Model.CRtTree
/-!
# The C encoder of every type tree writes `Spec.bits` (both builds), batch path included
-/
namespace Bp.CRt
open PyRt

theorem writes_cprefix (be ext : Bool) (v : Nat) :
    Writes (encPrefix be ext v) (if ext then natBits 16 v else []) := by
  cases ext with
  | false => exact Writes.nil
  | true => exact leafBits_natCast 16 v ▸ writes_cleaf be 16 (by decide) (v : Int)

/-- on a list that is long enough the C element loop is the Python one -/
theorem encArrWith_eq (f : Val → Act) : ∀ (vs : List Val) (s : List Nat) (i : Nat),
    encArrWith f vs.length vs s i = PyRt.encArrWith f vs.length vs s i
  | [], _, _ => rfl
  | v :: vs, s, i => by
    simp only [List.length_cons, encArrWith, PyRt.encArrWith]
    cases f v s i with
    | error _ => rfl
    | ok p => exact encArrWith_eq f vs p.1 p.2

theorem cellsOf_length (size : Nat) : ∀ vs, (cellsOf size vs).length = size * vs.length
  | [] => rfl
  | v :: vs => by
    rw [cellsOf, List.length_append, natToBytes_length, cellsOf_length size vs, List.length_cons, Nat.mul_succ,
      Nat.add_comm]

theorem cellsOf_allBytes (size : Nat) : ∀ vs, AllBytes (cellsOf size vs)
  | [] => fun _ hb => nomatch hb
  | _ :: vs => fun b hb =>
    (List.mem_append.1 hb).elim (natToBytes_allBytes _ _ b) (cellsOf_allBytes size vs b)

theorem cellsOf_testBit (size : Nat) : ∀ (vs : List Val) (q : Nat),
    (bytesToNat (cellsOf size vs)).testBit q =
      bitAt (vs.flatMap fun v => leafBits (8 * size) (Val.toInt v)) q
  | [], q => Nat.zero_testBit q
  | v :: vs, q => by
    have hb : tc (Val.toInt v) (8 * size) < 2^(8 * size) := tc_lt _ _
    rw [cellsOf, bytesToNat_append, natToBytes_length, bytesToNat_natToBytes, Nat.mod_eq_of_lt hb, List.flatMap_cons,
      Nat.add_comm, Nat.testBit_two_pow_mul_add _ hb]
    by_cases hq : q < 8 * size
    · rw [if_pos hq, bitAt_append_left _ _ _ (by rw [leafBits_length]; exact hq)]
      exact tc_testBit_leaf _ hq (Nat.le_refl _)
    · rw [if_neg hq, bitAt_append_right _ _ _ (by rw [leafBits_length]; exact Nat.le_of_not_lt hq), leafBits_length]
      exact cellsOf_testBit size vs _

theorem cells_bits {n : Nat} (hstd : n = 8 ∨ n = 16 ∨ n = 32 ∨ n = 64) (k : Nat) :
    8 * (storageSize n * k) = n * k := by
  rw [← Nat.mul_assoc, ← storageSize_std n hstd]

/-- **the batch copy writes the same bits as the per-element loop** (`n = 8·storageSize n`) -/
theorem writes_batch (n : Nat) (hstd : n = 8 ∨ n = 16 ∨ n = 32 ∨ n = 64) (vs : List Val) :
    Writes (encBatch n vs) (vs.flatMap fun v => leafBits n (Val.toInt v)) := by
  have hn := storageSize_std n hstd
  refine Writes.iff_wrote.2 fun s i hs hroom hz => ?_
  rw [length_flatMap_const vs fun _ _ => leafBits_length n _, Nat.mul_comm] at hroom ⊢
  obtain ⟨hw, hr, w⟩ := copyBits_wrote false (bytesToNat (cellsOf (storageSize n) vs)) hroom hz
  have hr' := Nat.le_trans hr (bytes_le_of_bits (Nat.le_of_eq (cells_bits hstd vs.length).symm))
  refine ⟨_, ?_, w.congr fun k _ => by rw [cellsOf_testBit, ← hn]⟩
  simp only [encBatch, encBase, Bool.false_eq_true, if_false, cellsOf_length, hw, hr', and_self, if_true]

theorem intLike_cases {e : Ty} {n : Nat} (h : intLikeBits e = some n) :
    ∃ t, (e = t ∨ e = .alias t) ∧ t.isScalar = true ∧ t.nbits = n ∧ isSignedLike e = t.signed := by
  cases e with
  | alias t =>
    cases t <;> simp only [intLikeBits, Option.some.injEq, reduceCtorEq] at h <;> exact ⟨_, .inr rfl, rfl, h, rfl⟩
  | _ => simp only [intLikeBits, Option.some.injEq, reduceCtorEq] at h <;> exact ⟨_, .inl rfl, rfl, h, rfl⟩

theorem bits_intLike {e : Ty} {n : Nat} (h : intLikeBits e = some n) {v : Val} (hv : shape e v = true) :
    Spec.bits e v = leafBits n (Val.toInt v) := by
  obtain ⟨t, he, ht, rfl, _⟩ := intLike_cases h
  obtain ⟨x, rfl⟩ := shape_scalar ht (v := v) (by rcases he with rfl | rfl <;> exact hv)
  rcases he with rfl | rfl <;> exact Spec.bits_scalar ht x

theorem nbits_intLike {e : Ty} {n : Nat} (h : intLikeBits e = some n) : e.nbits = n := by
  obtain ⟨t, rfl | rfl, _, rfl, _⟩ := intLike_cases h <;> rfl

/-- when `BpEndecodeArray` takes the batch path: little-endian build, integer-like elements of a
standard width -/
theorem useBatch_cases {be : Bool} {e : Ty} (h : useBatch be e = true) :
    be = false ∧ ∃ n, intLikeBits e = some n ∧ (n = 8 ∨ n = 16 ∨ n = 32 ∨ n = 64) := by
  simp only [useBatch, Bool.and_eq_true, Bool.not_eq_true'] at h
  cases hil : intLikeBits e with
  | none => simp [hil] at h
  | some n =>
    simp only [hil, Bool.or_eq_true, beq_iff_eq, or_assoc] at h
    exact ⟨h.1, n, rfl, h.2⟩

mutual
theorem writes_cenc (be : Bool) : ∀ (t : Ty) (v : Val), t.wf = true → shape t v = true →
    Writes (enc be t v) (Spec.bits t v)
  | .bool | .byte | .uint _ | .int _ | .enum _ _ => fun v hwf h => by
    obtain ⟨x, rfl⟩ := shape_scalar rfl h
    exact writes_cleaf be _ (wf_scalar rfl hwf).1 x
  | .alias t => fun v hwf => writes_cenc be t v (wf_alias hwf)
  | .array ext _ e => fun v hwf h => by
    obtain ⟨vs, rfl, rfl, hall⟩ := shape_array h
    -- the elements: one batch copy, or the loop
    have body : Writes (fun s i => if useBatch be e ∧ vs.length = vs.length then encBatch e.nbits vs s i
        else encArrWith (enc be e) vs.length vs s i) (vs.flatMap (Spec.bits e)) := by
      by_cases hb : useBatch be e = true
      · obtain ⟨_, n, hil, hstd⟩ := useBatch_cases hb
        rw [List.flatMap_def, List.map_congr_left fun v hv => bits_intLike hil (hall v hv), nbits_intLike hil]
        exact .congr (fun s i => by simp [hb]) (writes_batch n hstd vs)
      · exact .congr (fun s i => by simp [hb, encArrWith_eq])
          (writes_arr _ _ vs fun v hv => writes_cenc be e v (wf_array hwf).2.2 (hall v hv))
    apply Writes.seq (writes_cprefix be ext _) body
  | .msg ext fs => fun v hwf h => by
    obtain ⟨vs, rfl, h⟩ := shape_msg h
    apply Writes.seq (writes_cprefix be ext _) (writes_cfields be fs vs (wf_msg hwf).2 h)
theorem writes_cfields (be : Bool) : ∀ (fs : List (Nat × Ty)) (vs : List Val), wfFields fs = true →
    shapeFields fs vs = true → Writes (encFields be fs vs) (Spec.bitsFields fs vs)
  | [], [] => fun _ _ => Writes.nil
  | (_, t) :: fs, v :: vs => fun hwf h => by
    have h := shapeFields_cons h
    apply Writes.seq (writes_cenc be t v (wfFields_cons hwf).1 h.1) (writes_cfields be fs vs (wfFields_cons hwf).2 h.2)
  | [], _ :: _ | _ :: _, [] => fun _ h => by simp [shapeFields] at h
end

/-- **C standard mode, both builds**: `Encode<Msg>` on a zeroed buffer of `⌈N/8⌉` bytes never
leaves it (no `.oob`) and writes exactly the specified bytes; the cells' bits above each field's
width do not matter (any `shape`d value). -/
theorem cencode_eq_spec (be : Bool) (t : Ty) (v : Val) (hwf : t.wf = true) (h : shape t v = true) :
    encode be t v = .ok (Spec.encode t v) :=
  (writes_cenc be t v hwf h).encode h

end Bp.CRt
