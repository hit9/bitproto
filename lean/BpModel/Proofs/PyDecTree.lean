import BpModel.Proofs.Nodes
import BpModel.Proofs.PyDec
import BpModel.Proofs.Refines
/-!
# The Python decoder refines the prefix-honouring specification decoder

`dec_refines`: whenever `Spec.dec` succeeds on the wire `s` (all reads inside the buffer), the
generated `decode()` run on a freshly constructed message returns the same value and cursor —
provided every enum's first declared member is 0 (otherwise the fresh message is not all-zero and
decode ORs onto it: KF-py-enum-default).
-/
namespace Bp
mutual
/-- every enum's first declared member (the Python default of the field) is 0 -/
def enumZero : Ty → Bool
  | .enum _ ms => ms.headD 0 == 0
  | .alias t => enumZero t
  | .array _ _ e => enumZero e
  | .msg _ fs => enumZeroFields fs
  | _ => true
def enumZeroFields : List (Nat × Ty) → Bool
  | [] => true
  | (_, t) :: fs => enumZero t && enumZeroFields fs
end
end Bp

namespace Bp.PyRt

theorem decAhead_ok (s : List Nat) (hs : AllBytes s) (i : Nat) (hroom : i + 16 ≤ 8 * s.length) :
    decAhead s i = .ok (readNat (bytesToNat s) i 16, i + 16) := by
  unfold decAhead
  rw [decLeaf_uint 16 s hs i hroom]
  simp

theorem decArr_refines {f : Val → Nat → Except Exc (Val × Nat)} {d : Nat → Option (Val × Nat)} {v0 : Val}
    (h : ∀ j, Refines (d j) (f v0 j)) :
    ∀ (k i : Nat), Refines (Bp.decArrWith d k i) (PyRt.decArrWith f k (List.replicate k v0) i)
  | 0, _ => .pure _
  | k+1, i => .cons (h i) (decArr_refines h k)

mutual
theorem dec_refines : ∀ (t : Ty) (s : List Nat) (i : Nat), AllBytes s → t.wf = true → enumZero t = true →
    Refines (Spec.dec t (bytesToNat s) (8 * s.length) i) (dec t (fresh t) s i)
  | .bool => fun s i hs _ _ => .leaf (decLeaf_bool s hs 0 i)
  | .byte | .uint _ => fun s i hs _ _ => .leaf (decLeaf_uint _ s hs i)
  | .int n => fun s i hs hwf _ =>
    .leaf (decLeaf_int n (wf_scalar rfl hwf).1 s hs i)
  | .enum n ms => fun s i hs _ hz => by
    -- decoding ORs onto the field's default, the first declared member: it has to be 0
    have : fresh (.enum n ms) = .int 0 := congrArg (fun m : Nat => Val.int m) (beq_iff_eq.1 hz)
    rw [this]
    exact .leaf (decLeaf_uint n s hs i)
  | .alias t => fun s i hs hwf => dec_refines t s i hs (wf_alias hwf)
  | .array ext cap e => fun s i hs hwf hz => by
    have body := decArr_refines (f := fun v j => dec e v s j) (v0 := fresh e)
      (fun j => dec_refines e s j hs (wf_array hwf).2.2 hz) cap
    cases ext
    · apply Refines.node (body i)
    · apply Refines.ahead (decAhead_ok s hs i) body
  | .msg ext fs => fun s i hs hwf hz => by
    have body := fun j r h => decFields_refines fs s j r hs (wf_msg hwf).2 hz h
    cases ext
    · apply Refines.node (body i)
    · apply Refines.ahead (decAhead_ok s hs i) body
theorem decFields_refines : ∀ (fs : List (Nat × Ty)) (s : List Nat) (i : Nat) (r : List Val × Nat),
    AllBytes s → wfFields fs = true → enumZeroFields fs = true →
    Spec.decFields fs (bytesToNat s) (8 * s.length) i = some r →
    decFields fs (freshFields fs) s i = .ok r
  | [] => fun _ _ r _ _ _ hd => Refines.pure _ r hd
  | (_, t) :: fs => fun s i r hs hwf hz hd => by
    obtain ⟨hzt, hzfs⟩ := Bool.and_eq_true_iff.1 hz
    exact Refines.cons (dec_refines t s i hs (wfFields_cons hwf).1 hzt)
      (fun j r h => decFields_refines fs s j r hs (wfFields_cons hwf).2 hzfs h) r hd
end

end Bp.PyRt
