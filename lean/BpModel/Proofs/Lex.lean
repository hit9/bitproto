import BpModel.Model.Lex
import BpModel.Proofs.Lexer
/-!
# The lexer terminates and counts lines correctly

Both rest on one statement about `next`
(`next_spec`): a token takes a non-empty piece off the front of the input, which is the line feed
itself for NEWLINE and holds no line feed for any other kind; and an error is never "out of fuel".
-/
namespace Bp.Lex

/-- `rest` is `cs` without a non-empty first piece that holds no line feed -/
def Took (cs rest : List Char) : Prop := ∃ pre, pre ≠ [] ∧ '\n' ∉ pre ∧ cs = pre ++ rest

theorem Took.one {c : Char} {tl : List Char} (hc : c ≠ '\n') : Took (c :: tl) tl :=
  ⟨[c], by simp, by simpa using hc.symm, rfl⟩

theorem Took.cons {c : Char} {tl r : List Char} (hc : c ≠ '\n') : Took tl r → Took (c :: tl) r
  | ⟨pre, _, hn, e⟩ => ⟨c :: pre, by simp, by simpa [hn] using hc.symm, by rw [e]; rfl⟩

theorem span_split (p : Char → Bool) : ∀ cs, (span p cs).1 ++ (span p cs).2 = cs ∧ ∀ c ∈ (span p cs).1, p c = true
  | [] => ⟨rfl, List.forall_mem_nil _⟩
  | c :: cs => by
    have ih := span_split p cs
    unfold span
    by_cases h : p c = true
    · rw [if_pos h]
      exact ⟨congrArg (c :: ·) ih.1, List.forall_mem_cons.mpr ⟨h, ih.2⟩⟩
    · rw [if_neg h]
      exact ⟨rfl, List.forall_mem_nil _⟩

theorem Took.append {cs mid r : List Char} (hm : '\n' ∉ mid) : Took cs (mid ++ r) → Took cs r
  | ⟨pre, h0, hn, e⟩ => ⟨pre ++ mid, by simp [h0], by simp [hn, hm], by rw [e, List.append_assoc]⟩

theorem Took.thenSpan {p : Char → Bool} (hp : p '\n' = false) {cs r : List Char} (h : Took cs r) :
    Took cs (span p r).2 := by
  obtain ⟨hs, hall⟩ := span_split p r
  rw [← hs] at h
  exact h.append fun hm => by simp [hall _ hm] at hp

theorem Took.spanCons {p : Char → Bool} (hp : p '\n' = false) {c : Char} (hc : p c = true) (tl : List Char) :
    Took (c :: tl) (span p (c :: tl)).2 := by
  have hne : c ≠ '\n' := fun e => by simp [e, hp] at hc
  simpa [span, hc] using (Took.one (tl := tl) hne).thenSpan hp

theorem dropPrefix_split : ∀ (p cs r : List Char), dropPrefix p cs = some r → cs = p ++ r
  | [], _, _, rfl => rfl
  | p :: ps, c :: cs, r, h => by
    unfold dropPrefix at h
    by_cases e : p = c
    · rw [if_pos e] at h
      rw [dropPrefix_split ps cs r h, e]; rfl
    · rw [if_neg e] at h; cases h

/-- the common start of the word rules: not behind a word character, and the word itself comes first -/
theorem afterPrefix {α} {pw : Bool} {l cs : List Char} {F : List Char → Option α} {a : α}
    (h : (if pw then none else match dropPrefix l cs with | some rest => F rest | none => none) = some a) :
    ∃ rest, cs = l ++ rest ∧ F rest = some a := by
  by_cases hp : pw = true
  · rw [if_pos hp] at h; cases h
  rw [if_neg hp] at h
  cases hd : dropPrefix l cs with
  | none => rw [hd] at h; cases h
  | some rest => rw [hd] at h; exact ⟨rest, dropPrefix_split _ _ _ hd, h⟩

/- The word of a word rule is written `String.ofList l`, so that what the rule takes off is the list `l` itself: the
rules are used with literals, and `"bool".toList` is slow to evaluate where a fact about it is needed. -/
theorem wordRule_split {pw : Bool} {l cs r : List Char} (h : wordRule pw (String.ofList l) cs = some r) :
    cs = l ++ r := by
  unfold wordRule at h
  rw [String.toList_ofList] at h
  obtain ⟨rest, e, h⟩ := afterPrefix h
  split at h
  · cases h; exact e
  · cases h

theorem widthRule_split {pw : Bool} {l cs r : List Char} {n : Nat}
    (h : widthRule pw (String.ofList l) cs = some (n, r)) : ∃ ds, cs = l ++ (ds ++ r) ∧ ∀ c ∈ ds, isDigit c = true := by
  unfold widthRule at h
  rw [String.toList_ofList] at h
  obtain ⟨rest, e, h⟩ := afterPrefix h
  obtain ⟨hs, hall⟩ := span_split isDigit rest
  dsimp only at h
  by_cases he : (span isDigit rest).1.isEmpty = true
  · rw [if_pos he] at h; cases h
  rw [if_neg he] at h
  split at h
  · cases h
    exact ⟨_, by rw [hs]; exact e, hall⟩
  · cases h

/-- a string token: the opening quote, a body without line feed, the closing quote -/
theorem Took.ofLexString {tl r : List Char} {res} (h : Lexer.lexString tl = some (res, r)) : Took ('"' :: tl) r := by
  unfold Lexer.lexString at h
  split at h
  · cases h
  · rename_i b _ hm
    cases h
    obtain ⟨e, hn⟩ := Lexer.matchBody_split tl b r hm
    exact ⟨'"' :: b ++ ['"'], by simp, by simpa using hn, by rw [e]; simp⟩

theorem Took.length_lt {cs rest : List Char} : Took cs rest → rest.length < cs.length
  | ⟨pre, h0, _, e⟩ => by
    rw [e, List.length_append]
    exact Nat.lt_add_of_pos_left (List.length_pos_iff.mpr h0)

theorem Took.count {cs rest : List Char} : Took cs rest → cs.count '\n' = rest.count '\n'
  | ⟨pre, _, hn, e⟩ => by rw [e, List.count_append, List.count_eq_zero.mpr hn, Nat.zero_add]

/- Two implications and not `if k = .newline then … else …`: a term elaborated against `NextOk cs (.ok (k, rest))` has
that type brought to weak head normal form first, and an `if` there would be decided, which for the identifier rule
means evaluating `keywords.contains` on an open term. -/
def NextOk (cs : List Char) : Except LexErr (Kind × List Char) → Prop
  | .ok (k, rest) => (k = .newline → cs = '\n' :: rest) ∧ (k ≠ .newline → Took cs rest)
  | .error e => e ≠ .outOfFuel

theorem NextOk.tok {cs rest : List Char} {k : Kind} (hk : k ≠ .newline) (h : Took cs rest) :
    NextOk cs (.ok (k, rest)) :=
  ⟨fun e => absurd e hk, fun _ => h⟩

theorem NextOk.length_lt {cs rest : List Char} {k : Kind} (h : NextOk cs (.ok (k, rest))) :
    rest.length < cs.length := by
  by_cases hk : k = .newline
  · rw [h.1 hk]; exact Nat.lt_succ_self _
  · exact (h.2 hk).length_lt

theorem NextOk.count {cs rest : List Char} {k : Kind} (h : NextOk cs (.ok (k, rest))) :
    cs.count '\n' = rest.count '\n' + if k = .newline then 1 else 0 := by
  by_cases hk : k = .newline
  · rw [h.1 hk, if_pos hk, List.count_cons_self]
  · rw [(h.2 hk).count, if_neg hk]; rfl

theorem NextOk.ite {cs : List Char} {c : Prop} [Decidable c] {a b : Except LexErr (Kind × List Char)}
    (ha : c → NextOk cs a) (hb : ¬c → NextOk cs b) : NextOk cs (if c then a else b) := by
  split
  · exact ha ‹_›
  · exact hb ‹_›

theorem NextOk.orWord {pw : Bool} {l cs : List Char} {k : Kind} {b : Except LexErr (Kind × List Char)}
    (hl : l ≠ [] ∧ '\n' ∉ l) (hk : k ≠ .newline) (hb : NextOk cs b) :
    NextOk cs (if let some r := wordRule pw (String.ofList l) cs then .ok (k, r) else b) := by
  cases h : wordRule pw (String.ofList l) cs with
  | some r => exact .tok hk ⟨l, hl.1, hl.2, wordRule_split h⟩
  | none => exact hb

theorem NextOk.orWidth {pw : Bool} {l cs : List Char} {k : Nat → Kind} {b : Except LexErr (Kind × List Char)}
    (hl : l ≠ [] ∧ '\n' ∉ l) (hk : ∀ n, k n ≠ .newline) (hb : NextOk cs b) :
    NextOk cs (if let some (n, r) := widthRule pw (String.ofList l) cs then .ok (k n, r) else b) := by
  cases h : widthRule pw (String.ofList l) cs with
  | some nr =>
    have ⟨_, e, hd⟩ := widthRule_split h
    exact .tok (hk _) (Took.append (fun hm => by simpa [isDigit] using hd _ hm) ⟨l, hl.1, hl.2, e⟩)
  | none => exact hb

/- The cascade of `next` is walked one rule at a time with `NextOk.ite`, `NextOk.orWord` and `NextOk.orWidth`: `split`
simplifies the whole remaining cascade at every step and is some hundred times slower here. -/
theorem next_spec (pw : Bool) (line : Nat) : ∀ cs, NextOk cs (next pw line cs)
  | [] => nofun
  | c :: tl => by
    unfold next
    refine .ite (fun hc => ⟨fun _ => by rw [hc], fun h => absurd rfl h⟩) fun hnl => ?_
    refine .ite (fun _ => .tok (by simp) (.spanCons (by simp) (by simpa using hnl) tl)) fun _ => ?_
    apply NextOk.orWord (by decide) (by simp)
    apply NextOk.orWidth (by decide) (by simp)
    apply NextOk.orWidth (by decide) (by simp)
    apply NextOk.orWord (by decide) (by simp)
    refine .ite (fun hx => ?_) fun _ => ?_
    · simp only [Bool.and_eq_true, decide_eq_true_eq] at hx
      obtain ⟨⟨rfl, hx1⟩, _⟩ := hx
      obtain ⟨tl', rfl⟩ := List.head?_eq_some_iff.mp hx1
      exact .tok (by simp) (((Took.one (by decide)).cons (by decide)).thenSpan (p := isHex) (by decide))
    refine .ite (fun hd => .tok (by simp) (.spanCons (by decide) hd tl)) fun _ => ?_
    apply NextOk.orWord (by decide) (by simp)
    apply NextOk.orWord (by decide) (by simp)
    apply NextOk.orWord (by decide) (by simp)
    apply NextOk.orWord (by decide) (by simp)
    refine .ite (fun hi => .tok (by split <;> simp) (.spanCons (by decide) (by simp [isIdChar, hi]) tl)) fun _ => ?_
    refine .ite (fun hq => ?_) fun _ => ?_
    · subst hq
      cases h : Lexer.lexString tl with
      | none => simp [NextOk]
      | some vr =>
        obtain ⟨_ | v, r⟩ := vr
        · simp [NextOk]
        · exact .tok (by simp) (.ofLexString h)
    refine .ite (fun _ => .tok (by simp) (.one hnl)) fun _ => ?_
    refine .ite (fun _ => .tok (by simp) (.one hnl)) fun _ => ?_
    refine .ite (fun _ => .tok (by simp) (.one hnl)) fun _ => ?_
    refine .ite (fun _ => .tok (by simp) (.one hnl)) fun _ => ?_
    exact .ite (fun _ => .tok (by simp) (.one hnl)) fun _ => by simp [NextOk]

/-- **the lexer terminates**: with one unit of fuel per character the answer is never "out of fuel" -/
theorem lexAll_fuel (f : Nat) (pw : Bool) (line : Nat) (cs : List Char) : cs.length ≤ f →
    (lexAll f pw line cs).2 ≠ some .outOfFuel := by
  fun_induction lexAll f pw line cs
  case case3 ih => exact fun h => ih (Nat.le_of_succ_le_succ h)  -- an ignored character
  -- an error of `next`
  case case4 pw line c cs _ e he => exact fun _ => by simpa [NextOk, he] using next_spec pw line (c :: cs)
  case case6 f pw line c cs _ k rest he _ _ _ ih =>  -- a token
    have hn := next_spec pw line (c :: cs)
    rw [he] at hn
    exact fun h => ih (Nat.le_of_lt_succ (Nat.lt_of_lt_of_le hn.length_lt h))
  all_goals simp

theorem lex_total (text : List Char) : (lex text).2 ≠ some .outOfFuel :=
  lexAll_fuel text.length false 1 text (Nat.le_refl _)

/-- line numbers: a token is on line `l` where `l - 1` is the number of NEWLINE tokens before it -/
def LinesOk : Nat → List Token → Prop
  | _, [] => True
  | l, t :: ts => t.line = l ∧ LinesOk (if t.kind = .newline then l + 1 else l) ts

theorem lexAll_lines (f : Nat) (pw : Bool) (line : Nat) (cs : List Char) : LinesOk line (lexAll f pw line cs).1 := by
  fun_induction lexAll f pw line cs
  case case6 ih => exact ⟨rfl, ih⟩
  all_goals simp_all [LinesOk]

def nlToks (ts : List Token) : Nat := (ts.filter (fun t => decide (t.kind = .newline))).length

theorem nlToks_cons (t : Token) (ts : List Token) :
    nlToks (t :: ts) = nlToks ts + if t.kind = .newline then 1 else 0 := by
  simp only [nlToks, ← List.countP_eq_length_filter, List.countP_cons, decide_eq_true_eq]

/-- **every line feed is a NEWLINE token and vice versa**: in a text that lexes completely, the number of
NEWLINE tokens is the number of line-feed characters (comments stop before theirs, strings contain none) -/
theorem lexAll_count (f : Nat) (pw : Bool) (line : Nat) (cs : List Char) :
    (lexAll f pw line cs).2 = none → nlToks (lexAll f pw line cs).1 = cs.count '\n' := by
  fun_induction lexAll f pw line cs
  case case1 => exact fun _ => rfl
  case case3 c cs hi ih =>  -- an ignored character
    have hc : c ≠ '\n' := fun e => by simp [e, isIgnored] at hi
    intro h
    rw [ih h, List.count_cons_of_ne hc]
  case case6 f pw line c cs _ k rest he _ _ _ ih =>  -- a token
    have hn := next_spec pw line (c :: cs)
    rw [he] at hn
    intro h
    rw [nlToks_cons, ih h, hn.count]
  all_goals simp

end Bp.Lex
