import BpModel.Model.Names
import BpModel.Proofs.Char
/-!
# `pascal_case` on style-conforming names, on prefixes, and on names it changes
-/
namespace Bp.Names

theorem isLowerC_iff {c : Char} : isLowerC c = true ↔ 97 ≤ c.toNat ∧ c.toNat ≤ 122 := by
  simp only [isLowerC, Bool.and_eq_true, decide_eq_true_eq]; exact Iff.rfl

theorem isUpperC_iff {c : Char} : isUpperC c = true ↔ 65 ≤ c.toNat ∧ c.toNat ≤ 90 := by
  simp only [isUpperC, Bool.and_eq_true, decide_eq_true_eq]; exact Iff.rfl

theorem not_upper_of_lower {c : Char} (h : isLowerC c = true) : ¬ isUpperC c = true := fun h' => by
  have := isLowerC_iff.mp h; have := isUpperC_iff.mp h'; omega

theorem isUpperC_toUpperC {c : Char} (h : isLowerC c = true) : isUpperC (toUpperC c) = true := by
  have := isLowerC_iff.mp h
  rw [toUpperC, if_pos h, isUpperC_iff, toNat_ofNat_small _ (by omega)]; omega

theorem isLowerC_toLowerC {c : Char} (h : isUpperC c = true) : isLowerC (toLowerC c) = true := by
  have := isUpperC_iff.mp h
  rw [toLowerC, if_pos h, isLowerC_iff, toNat_ofNat_small _ (by omega)]; omega

/-- the case converters only produce letters: a character that is none is the image of itself only -/
theorem toUpperC_ne {c d : Char} (hd : isUpperC d = false) (h : c ≠ d) : toUpperC c ≠ d := by
  by_cases hl : isLowerC c = true
  · intro e; rw [← e, isUpperC_toUpperC hl] at hd; cases hd
  · rwa [toUpperC, if_neg hl]

theorem toLowerC_ne {c d : Char} (hd : isLowerC d = false) (h : c ≠ d) : toLowerC c ≠ d := by
  by_cases hu : isUpperC c = true
  · intro e; rw [← e, isLowerC_toLowerC hu] at hd; cases hd
  · rwa [toLowerC, if_neg hu]

theorem toUpperC_of_upper {c : Char} (h : isUpperC c = true) : toUpperC c = c :=
  if_neg fun hl => not_upper_of_lower hl h

theorem toUpperC_ne_of_lower {c : Char} (h : isLowerC c = true) : toUpperC c ≠ c := fun e =>
  not_upper_of_lower h (e ▸ isUpperC_toUpperC h)

/-- `split` on a non-empty text: the first part grows, or an empty part is put in front -/
theorem splitUs_cons (c : Char) (cs : List Char) : ∃ p ps, splitUs cs = p :: ps ∧
    splitUs (c :: cs) = if c = '_' then [] :: p :: ps else (c :: p) :: ps := by
  suffices h : ∃ p ps, splitUs cs = p :: ps by
    obtain ⟨p, ps, h⟩ := h; exact ⟨p, ps, h, by simp only [splitUs, h]⟩
  induction cs with
  | nil => exact ⟨[], [], rfl⟩
  | cons d cs ih =>
    obtain ⟨p, ps, h⟩ := ih
    rw [splitUs, h]
    exact if e : d = '_' then ⟨_, _, if_pos e⟩ else ⟨_, _, if_neg e⟩

theorem splitUs_noUs : ∀ (s : List Char), '_' ∉ s → splitUs s = [s]
  | [], _ => rfl
  | c :: cs, h => by
    have ⟨hc, hcs⟩ := List.ne_and_not_mem_of_not_mem_cons h
    simp [splitUs, splitUs_noUs cs hcs, Ne.symm hc]

theorem splitUs_append_us : ∀ (a b : List Char), '_' ∉ a → splitUs (a ++ '_' :: b) = a :: splitUs b
  | [], b, _ => by
    obtain ⟨p, ps, h, h'⟩ := splitUs_cons '_' b
    rw [List.nil_append, h', h, if_pos rfl]
  | c :: a, b, h => by
    have ⟨hc, ha⟩ := List.ne_and_not_mem_of_not_mem_cons h
    simp [splitUs, splitUs_append_us a b ha, Ne.symm hc]

theorem splitUs_parts_noUs : ∀ (s : List Char), ∀ p ∈ splitUs s, '_' ∉ p
  | [] => by simp [splitUs]
  | c :: cs => by
    obtain ⟨q, qs, h, h'⟩ := splitUs_cons c cs
    obtain ⟨hq, hqs⟩ := List.forall_mem_cons.mp (h ▸ splitUs_parts_noUs cs)
    rw [h']
    by_cases hc : c = '_'
    · rw [if_pos hc]
      exact List.forall_mem_cons.mpr ⟨List.not_mem_nil, List.forall_mem_cons.mpr ⟨hq, hqs⟩⟩
    · rw [if_neg hc]
      exact List.forall_mem_cons.mpr ⟨fun hm => (List.mem_cons.mp hm).elim (fun e => hc e.symm) hq, hqs⟩

/-- style-conforming PascalCase: an uppercase letter first, no underscore, not an all-caps tail -/
def IsPascal (s : List Char) : Prop :=
  ∃ c rest, s = c :: rest ∧ isUpperC c = true ∧ '_' ∉ s ∧ ¬ (rest ≠ [] ∧ pyIsUpper rest = true)

theorem IsPascal.noUs {s : List Char} (h : IsPascal s) : '_' ∉ s := by
  obtain ⟨_, _, _, _, hnu, _⟩ := h; exact hnu

theorem pascalPart_fixed {s : List Char} (h : IsPascal s) : pascalPart s = s := by
  obtain ⟨c, rest, rfl, hup, _, hnot⟩ := h
  rw [pascalPart, toUpperC_of_upper hup, if_neg hnot]

theorem pascalCase_of_noUs {s : List Char} (h : '_' ∉ s) : pascalCase s = pascalPart s := by
  simp [pascalCase, splitUs_noUs s h]

theorem pascalCase_fixed {s : List Char} (h : IsPascal s) : pascalCase s = s := by
  rw [pascalCase_of_noUs h.noUs, pascalPart_fixed h]

theorem pascalCase_append_us (p x : List Char) (hp : '_' ∉ p) :
    pascalCase (p ++ '_' :: x) = pascalPart p ++ pascalCase x := by
  simp [pascalCase, splitUs_append_us p x hp]

/-- a prefix ending in `_` contributes its own pascal form, the Pascal name stays as it is -/
theorem pascalCase_prefix (p n : List Char) (hp : '_' ∉ p) (hn : IsPascal n) :
    pascalCase (p ++ '_' :: n) = pascalPart p ++ n := by
  rw [pascalCase_append_us p n hp, pascalCase_fixed hn]

/-- a name whose first letter is lowercase is changed by `pascal_case` (so it is reported) -/
theorem pascalCase_ne_of_lower (c : Char) (rest : List Char) (hc : isLowerC c = true) (hnu : '_' ∉ (c :: rest)) :
    pascalCase (c :: rest) ≠ c :: rest := by
  rw [pascalCase_of_noUs hnu, pascalPart]
  exact fun h => toUpperC_ne_of_lower hc (List.cons.inj h).1

theorem pascalPart_noUs (p : List Char) (h : '_' ∉ p) : '_' ∉ pascalPart p := by
  cases p with
  | nil => exact h
  | cons c rest =>
    have ⟨hc, hr⟩ := List.ne_and_not_mem_of_not_mem_cons h
    rw [pascalPart, List.mem_cons, not_or]
    refine ⟨(toUpperC_ne rfl hc.symm).symm, ?_⟩
    split
    · rw [List.mem_map]
      rintro ⟨x, hx, e⟩
      exact toLowerC_ne rfl (fun ex : x = '_' => hr (ex ▸ hx)) e
    · exact hr

/-- `pascal_case` never leaves an underscore: a name with an inner underscore is changed (reported) -/
theorem pascalCase_noUs (s : List Char) : '_' ∉ pascalCase s := by
  simp only [pascalCase, List.mem_flatten, List.mem_map]
  rintro ⟨_, ⟨p, hp, rfl⟩, h⟩
  exact pascalPart_noUs p (splitUs_parts_noUs s p hp) h

theorem pascalCase_ne_of_us (s : List Char) (h : '_' ∈ s) : pascalCase s ≠ s :=
  fun e => pascalCase_noUs s (e.symm ▸ h)

theorem pascalCase_join : ∀ (l : List (List Char)), (∀ s ∈ l, IsPascal s) →
    pascalCase (joinWith ['_'] l) = l.flatten
  | [], _ => rfl
  | [x], h => by simpa [joinWith] using pascalCase_fixed (h x List.mem_cons_self)
  | x :: y :: ys, h => by
    have hx := h x List.mem_cons_self
    show pascalCase (x ++ ['_'] ++ joinWith ['_'] (y :: ys)) = x ++ (y :: ys).flatten
    rw [List.append_assoc, List.singleton_append, pascalCase_append_us _ _ hx.noUs, pascalPart_fixed hx,
      pascalCase_join (y :: ys) fun s hs => h s (List.mem_cons_of_mem _ hs)]

theorem convert_constant (l : Lang) (s : List Char) : convert l .constant s = upperCase s := by
  cases l <;> rfl

theorem convert_c {k : Kind} (hk : k ≠ .constant) (s : List Char) : convert .c k s = pascalCase s := by
  cases k <;> first | rfl | exact absurd rfl hk

end Bp.Names
