import BpModel.Model.Helpers
import BpModel.Proofs.Bits
/-! # Bit-level characterisation of the helper arithmetic -/
namespace Bp

/-- both branches of `get_mask` say the same: the bits below `k + c` that are not below `k` -/
theorem getMask_eq_sub (k c : Nat) : getMask k c = 2^(k + c) - 2^k := by
  unfold getMask
  by_cases hk : k = 0
  · rw [if_pos hk, hk, Nat.one_shiftLeft, Nat.zero_add, Nat.pow_zero]
  · rw [if_neg hk, Nat.one_shiftLeft, Nat.one_shiftLeft, Nat.add_right_comm, Nat.add_sub_cancel, Nat.add_sub_cancel]

theorem getMask_eq (k c : Nat) : getMask k c = (2^c - 1) <<< k := by
  rw [getMask_eq_sub, Nat.shiftLeft_eq, Nat.sub_mul, Nat.one_mul, Nat.pow_add, Nat.mul_comm]

theorem getMask_testBit (k c p : Nat) :
    (getMask k c).testBit p = (decide (k ≤ p) && decide (p < k + c)) := by
  rw [getMask_eq_sub, two_pow_sub_testBit _ _ _ (Nat.le_add_right k c)]

theorem getMask_lt (k c : Nat) (h : k + c ≤ 8) : getMask k c < 256 := by
  rw [getMask_eq_sub]
  exact Nat.lt_of_lt_of_le (Nat.sub_lt (Nat.two_pow_pos _) (Nat.two_pow_pos _)) (Nat.pow_le_pow_right (by decide) h)

theorem smartShift_testBit (n : Nat) (a b p : Nat) :
    (smartShift n ((a:Int) - (b:Int))).testBit p = (decide (b ≤ p + a) && n.testBit (p + a - b)) := by
  unfold smartShift
  -- right by `a - b`, not at all, left by `b - a`
  rcases Nat.lt_trichotomy b a with h | rfl | h
  · rw [if_pos (by omega), Int.toNat_sub, Nat.testBit_shiftRight, decide_eq_true (by omega), Bool.true_and,
      Nat.add_sub_assoc (Nat.le_of_lt h), Nat.add_comm]
  · rw [Int.sub_self, if_neg (by decide), if_neg (by decide), Nat.add_sub_cancel, decide_eq_true (Nat.le_add_left ..),
      Bool.true_and]
  · rw [if_neg (by omega), if_pos (by omega), Int.neg_sub, Int.toNat_sub, Nat.testBit_shiftLeft,
      ← Nat.add_sub_add_right p a (b - a), Nat.sub_add_cancel (Nat.le_of_lt h)]
    exact congrArg (· && _) (decide_eq_decide.2 Nat.sub_le_iff_le_add)

theorem getMask_and_lt (v k c : Nat) (h : k + c ≤ 8) : v &&& getMask k c < 256 :=
  Nat.lt_of_le_of_lt Nat.and_le_right (getMask_lt k c h)

/-- shifting bit `a` of `B` to position `k` and masking `c` bits from `k` on: bits `a, a+1, …` of `B` on positions
`k, …, k+c-1`, nothing elsewhere -/
theorem shiftMask_testBit (B a k c q : Nat) :
    (smartShift B ((a : Int) - (k : Int)) &&& getMask k c).testBit q = slice k c (fun j => B.testBit (a + j)) q := by
  rw [Nat.testBit_and, smartShift_testBit, getMask_testBit]
  by_cases h : k ≤ q
  · rw [slice, decide_eq_true h, decide_eq_true (Nat.le_trans h (Nat.le_add_right q a)), Nat.sub_add_comm h,
      Nat.add_comm (q - k), Bool.true_and, Bool.true_and, Bool.and_comm]
  · rw [slice_of_lt (by omega), decide_eq_false h, Bool.false_and, Bool.and_false]

/-- **one chunk.**  The byte value `B`, shifted and masked as `encode_single_byte`, `decode_single_byte` and their
compile-time forms do it, and seen at byte `d / 8` of the destination: bits `a, a+1, …` of `B` on positions
`d, …, d+c-1`, nothing elsewhere. -/
theorem chunk_testBit (B a d c p : Nat) :
    ((smartShift B ((a : Int) - ((d % 8 : Nat) : Int)) &&& getMask (d % 8) c) <<< (8 * (d / 8))).testBit p =
      slice d c (fun k => B.testBit (a + k)) p := by
  rw [Nat.testBit_shiftLeft, shiftMask_testBit, slice_shift, Nat.div_add_mod]

theorem storageBits_cases (n : Nat) : n ≤ 8 ∧ storageBits n = 8 ∨ 8 < n ∧ n ≤ 16 ∧ storageBits n = 16 ∨
    16 < n ∧ n ≤ 32 ∧ storageBits n = 32 ∨ 32 < n ∧ storageBits n = 64 := by
  unfold storageBits
  by_cases h1 : n ≤ 8
  · exact .inl ⟨h1, if_pos h1⟩
  rw [if_neg h1]
  by_cases h2 : n ≤ 16
  · exact .inr (.inl ⟨Nat.lt_of_not_le h1, h2, if_pos h2⟩)
  rw [if_neg h2]
  by_cases h3 : n ≤ 32
  · exact .inr (.inr (.inl ⟨Nat.lt_of_not_le h2, h3, if_pos h3⟩))
  · exact .inr (.inr (.inr ⟨Nat.lt_of_not_le h3, if_neg h3⟩))

theorem storageBits_eq_self (n : Nat) : storageBits n = n ↔ (n = 8 ∨ n = 16 ∨ n = 32 ∨ n = 64) := by
  constructor
  · intro h; have := storageBits_cases n; omega
  · rintro (rfl | rfl | rfl | rfl) <;> rfl

theorem storageBits_ge (n : Nat) (h : n ≤ 64) : n ≤ storageBits n ∧ 0 < storageBits n := by
  have := storageBits_cases n; omega

theorem nbitsToCopy_spec (i : Nat) {j n : Nat} (h : j < n) :
    0 < nbitsToCopy i j n ∧ nbitsToCopy i j n ≤ n - j ∧ nbitsToCopy i j n ≤ 8 - j % 8 ∧
      nbitsToCopy i j n ≤ 8 - i % 8 := by
  unfold nbitsToCopy
  have pos : ∀ m, 0 < 8 - m % 8 := fun m => Nat.sub_pos_of_lt (Nat.mod_lt m (by decide))
  exact ⟨Nat.lt_min.2 ⟨Nat.sub_pos_of_lt h, Nat.lt_min.2 ⟨pos j, pos i⟩⟩, Nat.min_le_left _ _,
    Nat.le_trans (Nat.min_le_right _ _) (Nat.min_le_left _ _),
    Nat.le_trans (Nat.min_le_right _ _) (Nat.min_le_right _ _)⟩

/-- induction along the chunk loop `while j < n: c = get_nbits_to_copy(i, j, n); …; i += c; j += c` with fuel: every
chunk is non-empty, splits what is left of the leaf into itself and the rest, and ends inside the current byte on
either side -/
theorem chunk_induction (n : Nat) {P : Nat → Nat → Nat → Prop}
    (stop : ∀ fuel i j, n ≤ j → P fuel i j)
    (step : ∀ fuel i j c, j < n → nbitsToCopy i j n = c → 0 < c → n - j = c + (n - (j + c)) →
      c ≤ 8 - j % 8 → c ≤ 8 - i % 8 → P fuel (i + c) (j + c) → P (fuel + 1) i j) :
    ∀ fuel i j, n - j ≤ fuel → P fuel i j
  | 0, i, j, h => stop 0 i j (Nat.le_of_sub_eq_zero (Nat.eq_zero_of_le_zero h))
  | fuel + 1, i, j, h => by
    by_cases hlt : j < n
    · -- the recursive call first: `omega` is slow once the bounds with `%` are in the context
      have h0 := (nbitsToCopy_spec i hlt).1
      have ih := chunk_induction n stop step fuel (i + nbitsToCopy i j n) (j + nbitsToCopy i j n) (by omega)
      obtain ⟨_, h1, h2, h3⟩ := nbitsToCopy_spec i hlt
      exact step fuel i j _ hlt rfl h0 (by rw [Nat.sub_add_eq, Nat.add_sub_cancel' h1]) h2 h3 ih
    · exact stop _ i j (Nat.le_of_not_lt hlt)

end Bp
