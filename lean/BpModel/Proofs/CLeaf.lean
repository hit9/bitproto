import BpModel.Proofs.CCopy
import BpModel.Proofs.Writes
import BpModel.Proofs.Helpers
/-!
# C leaves: `BpEndecodeBaseType` / `BpEndecodeInt` on both builds

* encode writes exactly `leafBits n x` (so only the low `n` bits of the cell matter) and never
  leaves the wire buffer, the cell or the staging buffer;
* decode into a zeroed cell leaves the unsigned wire value, and after `BpHandleIntSignAfterEndecode`
  the sign-extended one;
* the big-endian build on big-endian storage does the same as the little-endian build on
  little-endian storage (the staging buffer is the byte-reversed cell).
-/
namespace Bp.CRt
open PyRt

/-- `BpBaseTypeStorageSize` counts the bytes of the storage width the compiler chose -/
theorem storageBits_eq_storageSize (n : Nat) : storageBits n = 8 * storageSize n := by
  unfold storageBits storageSize
  rw [apply_ite (8 * ·), apply_ite (8 * ·), apply_ite (8 * ·)]

theorem storageSize_bounds (n : Nat) (h : n ≤ 64) :
    n ≤ 8 * storageSize n ∧ 1 ≤ storageSize n ∧ storageSize n ≤ 8 := by
  have := storageBits_eq_storageSize n
  have := storageBits_cases n
  omega

/-- `⌈n/8⌉` bytes from the start of the cell stay inside the cell (little-endian build) or the 8-byte staging buffer
(big-endian build) -/
theorem le_cellBytes {x n : Nat} (be : Bool) (hn : n ≤ 64) (h : x ≤ (n + 7) / 8) :
    x ≤ (if be then 8 else storageSize n) := by
  obtain ⟨hsz, _, hsz8⟩ := storageSize_bounds n hn
  have hs : (n + 7) / 8 ≤ storageSize n := bytes_le_of_bits hsz
  cases be
  · exact Nat.le_trans h hs
  · exact Nat.le_trans h (Nat.le_trans hs hsz8)

/-- staging a big-endian cell reverses it into the low bytes of the 8-byte buffer -/
theorem stageIn_eq (size : Nat) (mem : List Nat) (h : mem.length = size) (h8 : size ≤ 8) :
    stageIn size mem = mem.reverse ++ zeros (8 - size) := by
  refine List.ext_getElem (by simp [stageIn, zeros, h]; omega) fun k h1 h2 => ?_
  simp only [stageIn, List.getElem_map, List.getElem_range]
  by_cases hk : k < size
  · rw [if_pos hk, List.getElem_append_left (by simpa [h] using hk), List.getD_eq_getElem?_getD,
      List.getElem?_eq_getElem (by omega)]
    simp [h]
  · rw [if_neg hk, List.getElem_append_right (by simpa [h] using Nat.le_of_not_lt hk)]
    simp [zeros]

/-- un-staging into a zeroed cell reverses the low bytes of the buffer -/
theorem stageOut_zeros (size : Nat) (le : List Nat) (h : size ≤ le.length) :
    stageOut size le (zeros size) = (le.take size).reverse := by
  refine List.ext_getElem (by simp [stageOut, zeros, h]) fun j h1 h2 => ?_
  have hj : j < size := by simpa [stageOut, zeros] using h1
  simp only [stageOut, List.getElem_map, List.getElem_range, if_pos hj, List.getElem_reverse, List.getElem_take,
    List.length_take, Nat.min_eq_left h]
  rw [List.getD_eq_getElem?_getD, List.getElem?_eq_getElem (by omega)]; rfl

theorem stageIn_cellOf (size u : Nat) (hs : size ≤ 8) :
    bytesToNat (stageIn size (cellOf true size u)) = u % 2^(8*size) := by
  rw [cellOf, if_pos rfl, stageIn_eq _ _ (by simp [natToBytes_length]) hs, List.reverse_reverse,
    bytesToNat_append_zeros, bytesToNat_natToBytes]

theorem cellOf_le_val (size u : Nat) : bytesToNat (cellOf false size u) = u % 2^(8*size) := by
  simp [cellOf, bytesToNat_natToBytes]

/-- what the copier reads on either build: the cell's integer, i.e. the two's complement at storage width -/
theorem encBase_cellOf (be : Bool) (n : Nat) (hn : n ≤ 64) (x : Int) (wire i : Nat) :
    encBase be n (cellOf be (storageSize n) (tc x (8 * storageSize n))) wire i =
      copyBits be n wire (tc x (8 * storageSize n)) i 0 := by
  cases be with
  | true => simp only [encBase, if_true, stageIn_cellOf _ _ (storageSize_bounds n hn).2.2, Nat.mod_eq_of_lt (tc_lt _ _)]
  | false => simp only [encBase, Bool.false_eq_true, if_false, cellOf_le_val, Nat.mod_eq_of_lt (tc_lt _ _)]

theorem writes_cleaf (be : Bool) (n : Nat) (hn : n ≤ 64) (x : Int) :
    Writes (encLeafAct be n x) (leafBits n x) := by
  refine Writes.iff_wrote.2 fun s i hs hroom hz => ?_
  rw [leafBits_length] at hroom ⊢
  obtain ⟨hsz, _, _⟩ := storageSize_bounds n hn
  obtain ⟨hw, hr, w⟩ := copyBits_wrote be (tc x (8 * storageSize n)) hroom hz
  exact ⟨_, by simp only [encLeafAct, encBase_cellOf be n hn, hw, le_cellBytes be hn hr, and_self, if_true],
    w.congr fun k hk => tc_testBit_leaf x hk hsz⟩

theorem zeros_val (be : Bool) (k : Nat) : bytesToNat (if be then (zeros k).reverse else zeros k) = 0 := by
  cases be <;> simp [zeros, List.reverse_replicate] <;> exact bytesToNat_zeros k

theorem cellVal_stageOut (size D : Nat) (hs : size ≤ 8) (hD : D < 2^(8*size)) :
    cellVal true (stageOut size (natToBytes 8 D) (zeros size)) = D := by
  rw [cellVal, if_pos rfl, stageOut_zeros _ _ (by simp [natToBytes_length, hs]), List.reverse_reverse,
    natToBytes_take _ _ _ hs, bytesToNat_natToBytes, Nat.mod_eq_of_lt hD]

/-- **decode, both builds**: after the copy into a zeroed cell (and, on the big-endian build, the un-staging) the cell
holds the unsigned wire value; no access outside the wire buffer, the cell or the staging buffer -/
theorem decBase_zeros (be : Bool) (n : Nat) (hn : n ≤ 64) (s : List Nat) (i : Nat) (hroom : i + n ≤ 8 * s.length) :
    cellVal be (decBase be n (zeros (storageSize n)) (bytesToNat s) i).1 = readNat (bytesToNat s) i n ∧
      (decBase be n (zeros (storageSize n)) (bytesToNat s) i).2.rhi ≤ s.length ∧
      (decBase be n (zeros (storageSize n)) (bytesToNat s) i).2.whi ≤ (if be then 8 else storageSize n) := by
  obtain ⟨hsz, _, hsz8⟩ := storageSize_bounds n hn
  have hlt : readNat (bytesToNat s) i n < 2^(8 * storageSize n) :=
    Nat.lt_of_lt_of_le (readNat_lt _ _ _) (Nat.pow_le_pow_right (by decide) hsz)
  obtain ⟨hD, hw, hr⟩ := copyBits_read be n (bytesToNat s) i
  have hr' : (copyBits be n 0 (bytesToNat s) 0 i).rhi ≤ s.length := Nat.le_trans hr (bytes_le_of_bits hroom)
  have hw' := le_cellBytes be hn hw
  cases be with
  | true =>
    simp only [decBase, if_true, hD]
    exact ⟨cellVal_stageOut _ _ hsz8 hlt, hr', hw'⟩
  | false =>
    simp only [decBase, Bool.false_eq_true, if_false, bytesToNat_zeros, hD, cellVal, zeros_length,
      bytesToNat_natToBytes, Nat.mod_eq_of_lt hlt]
    exact ⟨trivial, hr', hw'⟩

theorem decLeafVal_unsigned (be : Bool) (n : Nat) (hn : n ≤ 64) (s : List Nat) (i : Nat)
    (hroom : i + n ≤ 8 * s.length) :
    decLeafVal be false n s i = .ok ((readNat (bytesToNat s) i n : Nat), i + n) := by
  obtain ⟨hv, hr, hw⟩ := decBase_zeros be n hn s i hroom
  simp only [decLeafVal, hr, hw, and_self, if_true, hv, Bool.false_eq_true, if_false]

/-- for the other widths `BpHandleIntSignAfterEndecode` ORs the sign bit `n - 1` into bits `[n, 8·size)` -/
theorem signFix_testBit (size n u k : Nat) (hn : n ≤ 8 * size) (hs : ¬ (n = 8 ∨ n = 16 ∨ n = 32 ∨ n = 64)) :
    (signFix size n u).testBit k = (u.testBit k || (decide (n ≤ k) && decide (k < 8 * size) && u.testBit (n - 1))) := by
  rw [signFix, if_neg hs]
  cases hb : u.testBit (n - 1) <;> simp [Nat.testBit_or, two_pow_sub_testBit _ _ _ hn]

/-- `BpHandleIntSignAfterEndecode` turns the unsigned `n`-bit pattern in the cell into the
storage-width two's complement of its signed reading -/
theorem sgn_signFix (size n u : Nat) (hn1 : 1 ≤ n) (hn : n ≤ 8 * size) (hu : u < 2^n)
    (hstd : (n = 8 ∨ n = 16 ∨ n = 32 ∨ n = 64) → n = 8 * size) :
    sgn (signFix size n u) (8 * size) = sgn u n := by
  by_cases hs : n = 8 ∨ n = 16 ∨ n = 32 ∨ n = 64
  · rw [signFix, if_pos hs, ← hstd hs]
  have hfalse : ∀ j, n ≤ j → u.testBit j = false := fun j => testBit_of_lt_two_pow hu
  have hvlt : signFix size n u < 2^(8*size) := Nat.lt_pow_two_of_testBit _ fun k hk => by
    rw [signFix_testBit _ _ _ _ hn hs, decide_eq_false (Nat.not_lt.2 hk), hfalse k (Nat.le_trans hn hk)]; simp
  -- bit `8·size - 1` of the cell is the sign: it is bit `n - 1` itself or lies above it
  have htop : (signFix size n u).testBit (8 * size - 1) = u.testBit (n - 1) := by
    have hlt : 8 * size - 1 < 8 * size := Nat.sub_lt (Nat.lt_of_lt_of_le hn1 hn) Nat.one_pos
    rw [signFix_testBit _ _ _ _ hn hs]
    rcases Nat.eq_or_lt_of_le hn with rfl | h
    · rw [decide_eq_false (Nat.not_le.2 hlt), Bool.false_and, Bool.false_and, Bool.or_false]
    · have h := Nat.le_sub_one_of_lt h
      rw [hfalse _ h, decide_eq_true h, decide_eq_true hlt, Bool.false_or, Bool.true_and, Bool.true_and]
  refine PyInt.eq_of_tb_eq _ _ fun k => ?_
  rw [tb_sgn _ _ hvlt, tb_sgn _ _ hu, sext, sext, htop, signFix_testBit _ _ _ _ hn hs]
  -- the sign bit now stands at `[n, 8·size)` and from `8·size` on, that is from `n` on
  rw [Bool.or_assoc, ← Bool.and_or_distrib_right, ← Bool.decide_and, ← Bool.decide_or]
  rw [decide_eq_decide.2 (show n ≤ k ∧ k < 8 * size ∨ 8 * size ≤ k ↔ n ≤ k by omega)]

theorem storageSize_std (n : Nat) (h : n = 8 ∨ n = 16 ∨ n = 32 ∨ n = 64) : n = 8 * storageSize n :=
  (storageBits_eq_storageSize n) ▸ ((storageBits_eq_self n).mpr h).symm

theorem decLeafVal_signed (be : Bool) (n : Nat) (hn1 : 1 ≤ n) (hn : n ≤ 64) (s : List Nat)
    (i : Nat) (hroom : i + n ≤ 8 * s.length) :
    decLeafVal be true n s i = .ok (sgn (readNat (bytesToNat s) i n) n, i + n) := by
  obtain ⟨hv, hr, hw⟩ := decBase_zeros be n hn s i hroom
  simp only [decLeafVal, hr, hw, and_self, if_true, hv]
  rw [sgn_signFix _ _ _ hn1 (storageSize_bounds n hn).1 (readNat_lt _ _ _) (storageSize_std n)]

end Bp.CRt
