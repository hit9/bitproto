import BpModel.Model.JsonText
import BpModel.Proofs.Lit
/-!
# Reading back what was written

`parse (renderWith s j) = some j` for the compact separators of the C
runtime and for `json.dumps`' default ones, for every JSON value whose keys contain no quote.
-/
namespace Bp.JsonText

theorem digitVal_isDigit {c : Char} {d : Nat} (h : Lit.digitVal? c = some d) : isDigit c = true ∧ d = c.toNat - 48 := by
  unfold Lit.digitVal? at h
  split at h
  · rename_i hc
    exact ⟨by simp [isDigit, hc.1, hc.2], (Option.some.inj h).symm⟩
  · cases h

theorem readPre_append : ∀ (xs rest : List Char) (a a' : Nat), Lit.readGo a xs = some a' →
    readPre a (xs ++ rest) = readPre a' rest
  | [], rest, a, a', h => by cases h; rfl
  | c :: xs, rest, a, a', h => by
    rw [Lit.readGo] at h
    cases hd : Lit.digitVal? c with
    | none => rw [hd] at h; cases h
    | some d =>
      rw [hd] at h
      obtain ⟨hc, rfl⟩ := digitVal_isDigit hd
      rw [List.cons_append, readPre, if_pos hc]
      exact readPre_append xs rest _ a' h

def startsDigit : List Char → Bool
  | c :: _ => isDigit c
  | [] => false

theorem readPre_stop (a : Nat) (rest : List Char) (h : startsDigit rest = false) : readPre a rest = (a, rest) := by
  cases rest with
  | nil => rfl
  | cons c cs => simp only [startsDigit] at h; simp [readPre, h]

theorem digits_head (n : Nat) : ∃ c r, Lit.digits n = c :: r ∧ isDigit c = true :=
  have ⟨c, r, _, hr, hd⟩ := Lit.digits_head n
  ⟨c, r, hr, (digitVal_isDigit hd).1⟩

theorem digits_read (n : Nat) (rest : List Char) (h : startsDigit rest = false) :
    ∃ c r, Lit.digits n ++ rest = c :: r ∧ isDigit c = true ∧ readPre 0 (c :: r) = (n, rest) := by
  obtain ⟨c, r, hd, hc⟩ := digits_head n
  refine ⟨c, r ++ rest, by rw [hd]; rfl, hc, ?_⟩
  rw [← List.cons_append, ← hd, readPre_append _ rest 0 n (Lit.readGo_digits n), readPre_stop n rest h]

theorem parseVal_digit (f : Nat) (c : Char) (r : List Char) (hc : isDigit c = true) :
    parseVal (f + 1) (c :: r) = some (.num (readPre 0 (c :: r)).1, (readPre 0 (c :: r)).2) := by
  rw [parseVal]
  · simp [hc]
  all_goals intros; subst_vars; cases hc

theorem parseVal_minus (f : Nat) (c : Char) (r : List Char) (hc : isDigit c = true) :
    parseVal (f + 1) ('-' :: c :: r) = some (.num (-((readPre 0 (c :: r)).1 : Int)), (readPre 0 (c :: r)).2) := by
  simp [parseVal, hc]

theorem parseVal_num (x : Int) (rest : List Char) (f : Nat) (hr : startsDigit rest = false) :
    parseVal (f + 1) (Lit.intLit x ++ rest) = some (.num x, rest) := by
  cases x with
  | ofNat n =>
    obtain ⟨c, r, hd, hc, hread⟩ := digits_read n rest hr
    rw [Lit.intLit, hd, parseVal_digit f c r hc, hread]; rfl
  | negSucc n =>
    obtain ⟨c, r, hd, hc, hread⟩ := digits_read (n + 1) rest hr
    rw [Lit.intLit, List.cons_append, hd, parseVal_minus f c r hc, hread, Int.negSucc_eq]; rfl

theorem readKey_append : ∀ (k rest : List Char), '"' ∉ k → readKey (k ++ '"' :: rest) = some (k, rest)
  | [], rest, _ => rfl
  | c :: k, rest, h => by
    have ⟨hc, hk⟩ := List.ne_and_not_mem_of_not_mem_cons h
    rw [List.cons_append, readKey, readKey_append k rest hk]
    exact fun e => hc e.symm

def blanks (n : Nat) : List Char := List.replicate n ' '

/-- separators: a comma / colon followed by blanks -/
structure SepOk (s : Sep) : Prop where
  item : ∃ a, s.item = ',' :: blanks a
  key : ∃ b, s.key = ':' :: blanks b

theorem compact_ok : SepOk compact := ⟨⟨0, rfl⟩, ⟨0, rfl⟩⟩
theorem pyDefault_ok : SepOk pyDefault := ⟨⟨1, rfl⟩, ⟨1, rfl⟩⟩

theorem skipBlanks_cons (c : Char) (cs : List Char) (h : c ≠ ' ') : skipBlanks (c :: cs) = c :: cs := by
  rw [skipBlanks]
  exact fun _ e => h (List.cons.inj e).1

theorem skipBlanks_blanks : ∀ (n : Nat) (t : List Char), skipBlanks (blanks n ++ t) = skipBlanks t
  | 0, _ => rfl
  | n + 1, t => by
    rw [blanks, List.replicate_succ, List.cons_append, skipBlanks]
    exact skipBlanks_blanks n t

mutual
def keysOk : JT → Bool
  | .num _ => true
  | .bool _ => true
  | .arr xs => keysOkL xs
  | .obj kvs => keysOkF kvs
def keysOkL : List JT → Bool
  | [] => true
  | x :: xs => keysOk x && keysOkL xs
def keysOkF : List (List Char × JT) → Bool
  | [] => true
  | (k, v) :: kvs => !k.contains '"' && keysOk v && keysOkF kvs
end

mutual
/-- fuel that reading a rendered value back needs; at most the length of its text (`need_le`) -/
def need : JT → Nat
  | .num _ => 1
  | .bool _ => 1
  | .arr [] => 1
  | .arr (x :: xs) => 1 + need x + needE xs
  | .obj [] => 1
  | .obj ((_, v) :: kvs) => 1 + need v + needF kvs
def needE : List JT → Nat
  | [] => 1
  | x :: xs => 1 + need x + needE xs
def needF : List (List Char × JT) → Nat
  | [] => 1
  | (_, v) :: kvs => 1 + need v + needF kvs
end

theorem keysOkF_cons {k : List Char} {v : JT} {kvs : List (List Char × JT)} (h : keysOkF ((k, v) :: kvs) = true) :
    '"' ∉ k ∧ keysOk v = true ∧ keysOkF kvs = true := by
  simpa [keysOkF, and_assoc] using h

/-- the fuel of a node covers its first child and the remaining ones -/
theorem fuel_split {a b f : Nat} (h : 1 + a + b ≤ f + 1) : a ≤ f ∧ b ≤ f := by omega

/-- no value's text begins with a blank (`skipBlanks` stops there) or with `]` (the reader's `[]` arm does not fire) -/
theorem render_head (s : Sep) (j : JT) : ∃ c r, renderWith s j = c :: r ∧ c ≠ ' ' ∧ c ≠ ']' := by
  cases j with
  | num x =>
    cases x with
    | ofNat n =>
      obtain ⟨c, r, hr, hc⟩ := digits_head n
      refine ⟨c, r, hr, ?_, ?_⟩ <;> rintro rfl <;> cases hc
    | negSucc n => exact ⟨'-', _, rfl, by decide, by decide⟩
  | bool b => cases b <;> exact ⟨_, _, rfl, by decide, by decide⟩
  | arr xs => cases xs <;> exact ⟨_, _, rfl, by decide, by decide⟩
  | obj kvs => rcases kvs with _ | ⟨⟨k, v⟩, kvs⟩ <;> exact ⟨_, _, rfl, by decide, by decide⟩

theorem skipBlanks_render (s : Sep) (j : JT) (rest : List Char) :
    skipBlanks (renderWith s j ++ rest) = renderWith s j ++ rest := by
  obtain ⟨c, r, hc, hsp, _⟩ := render_head s j
  rw [hc]; exact skipBlanks_cons c _ hsp

theorem elems_start (s : Sep) (hs : SepOk s) (xs : List JT) (rest : List Char) :
    startsDigit (renderElems s xs ++ ']' :: rest) = false := by
  cases xs with
  | nil => rfl
  | cons x xs => obtain ⟨a, ha⟩ := hs.item; rw [renderElems, ha]; rfl

theorem fields_start (s : Sep) (hs : SepOk s) (kvs : List (List Char × JT)) (rest : List Char) :
    startsDigit (renderFields s kvs ++ '}' :: rest) = false := by
  match kvs with
  | [] => rfl
  | (k, v) :: kvs => obtain ⟨a, ha⟩ := hs.item; rw [renderFields, ha]; rfl

theorem need_pos : ∀ (j : JT), 0 < need j
  | .num _ | .bool _ | .arr [] | .obj [] => Nat.one_pos
  | .arr (_ :: _) | .obj ((_, _) :: _) => by simp only [need]; omega

/-- a member's key is read up to its quote; after it come the colon and what `skipBlanks` passes over -/
theorem readKey_member {s : Sep} (hs : SepOk s) {k : List Char} (hq : '"' ∉ k) (t : List Char) :
    ∃ r1, readKey (k ++ '"' :: (s.key ++ t)) = some (k, ':' :: r1) ∧ skipBlanks r1 = skipBlanks t :=
  have ⟨b, hb⟩ := hs.key
  ⟨blanks b ++ t, by rw [hb]; exact readKey_append k _ hq, skipBlanks_blanks b t⟩

/- `rest` must not begin with a digit: a number at the end of `j` would read on into it.  Inside a value what follows is
`,` `]` `}` (`elems_start`, `fields_start`). -/
mutual
theorem parseVal_render (s : Sep) (hs : SepOk s) : ∀ (j : JT) (rest : List Char) (f : Nat),
    keysOk j = true → startsDigit rest = false → need j ≤ f → parseVal f (renderWith s j ++ rest) = some (j, rest)
  | j, _, 0 => fun _ _ hf => absurd (need_pos j) (Nat.not_lt.mpr hf)
  | .num x, rest, f+1 => fun _ hr _ => parseVal_num x rest f hr
  | .bool b, rest, f+1 => fun _ _ _ => by cases b <;> rfl
  | .arr [], rest, f+1 => fun _ _ _ => rfl
  | .arr (x :: xs), rest, f+1 => fun hk hr hf => by
    obtain ⟨hf1, hf2⟩ := fuel_split hf
    obtain ⟨hx, hxs⟩ := Bool.and_eq_true_iff.mp hk
    have h1 := parseVal_render s hs x _ f hx (elems_start s hs xs rest) hf1
    have h2 := parseElems_render s hs xs rest f hxs hf2
    obtain ⟨c, r, hc, _, hnb⟩ := render_head s x
    simp only [renderWith, List.cons_append, List.append_assoc, List.nil_append]
    rw [parseVal]
    · simp only [h1, h2]
    · rw [hc]; exact fun _ e => hnb (List.cons.inj e).1
  | .obj [], rest, f+1 => fun _ _ _ => rfl
  | .obj ((k, v) :: kvs), rest, f+1 => fun hk hr hf => by
    obtain ⟨hf1, hf2⟩ := fuel_split hf
    obtain ⟨hq, hv, hkvs⟩ := keysOkF_cons hk
    obtain ⟨r1, hkey, hsk⟩ := readKey_member hs hq (renderWith s v ++ (renderFields s kvs ++ '}' :: rest))
    have h1 := parseVal_render s hs v _ f hv (fields_start s hs kvs rest) hf1
    have h2 := parseFields_render s hs kvs rest f hkvs hf2
    simp only [renderWith, List.cons_append, List.append_assoc, List.nil_append]
    rw [parseVal]; simp only [hkey, hsk, skipBlanks_render, h1, h2]
theorem parseElems_render (s : Sep) (hs : SepOk s) : ∀ (xs : List JT) (rest : List Char) (f : Nat),
    keysOkL xs = true → needE xs ≤ f → parseElems f (renderElems s xs ++ ']' :: rest) = some (xs, rest)
  | xs, _, 0 => fun _ hf => by cases xs <;> simp [needE] at hf
  | [], rest, f+1 => fun _ _ => rfl
  | x :: xs, rest, f+1 => fun hk hf => by
    obtain ⟨hf1, hf2⟩ := fuel_split hf
    obtain ⟨hx, hxs⟩ := Bool.and_eq_true_iff.mp hk
    obtain ⟨a, ha⟩ := hs.item
    have h1 := parseVal_render s hs x _ f hx (elems_start s hs xs rest) hf1
    have h2 := parseElems_render s hs xs rest f hxs hf2
    simp only [renderElems, ha, List.cons_append, List.append_assoc]
    rw [parseElems]; simp only [skipBlanks_blanks, skipBlanks_render, h1, h2]
theorem parseFields_render (s : Sep) (hs : SepOk s) : ∀ (kvs : List (List Char × JT)) (rest : List Char) (f : Nat),
    keysOkF kvs = true → needF kvs ≤ f → parseFields f (renderFields s kvs ++ '}' :: rest) = some (kvs, rest)
  | kvs, _, 0 => fun _ hf => by cases kvs <;> simp [needF] at hf
  | [], rest, f+1 => fun _ _ => rfl
  | (k, v) :: kvs, rest, f+1 => fun hk hf => by
    obtain ⟨hf1, hf2⟩ := fuel_split hf
    obtain ⟨hq, hv, hkvs⟩ := keysOkF_cons hk
    obtain ⟨a, ha⟩ := hs.item
    obtain ⟨r1, hkey, hsk⟩ := readKey_member hs hq (renderWith s v ++ (renderFields s kvs ++ '}' :: rest))
    have h1 := parseVal_render s hs v _ f hv (fields_start s hs kvs rest) hf1
    have h2 := parseFields_render s hs kvs rest f hkvs hf2
    simp only [renderFields, ha, List.cons_append, List.append_assoc]
    rw [parseFields]
    simp only [skipBlanks_blanks, skipBlanks_cons '"' _ (by decide), hkey, hsk, skipBlanks_render, h1, h2]
end

mutual
theorem need_le (s : Sep) (hs : SepOk s) : ∀ (j : JT), need j ≤ (renderWith s j).length
  | .num _ | .bool _ | .arr [] | .obj [] => by
    obtain ⟨c, r, hc, _⟩ := render_head s _
    rw [hc]; exact Nat.le_add_left 1 _
  | .arr (x :: xs) => by
    have h1 := need_le s hs x
    have h2 := needE_le s hs xs
    simp only [need, renderWith, List.length_cons, List.length_append, List.length_nil]
    omega
  | .obj ((k, v) :: kvs) => by
    have h1 := need_le s hs v
    have h2 := needF_le s hs kvs
    simp only [need, renderWith, List.length_cons, List.length_append, List.length_nil]
    omega
theorem needE_le (s : Sep) (hs : SepOk s) : ∀ (xs : List JT), needE xs ≤ (renderElems s xs).length + 1
  | [] => Nat.le_refl 1
  | x :: xs => by
    have h1 := need_le s hs x
    have h2 := needE_le s hs xs
    obtain ⟨a, ha⟩ := hs.item
    simp only [needE, renderElems, List.length_append, ha, List.length_cons]
    omega
theorem needF_le (s : Sep) (hs : SepOk s) : ∀ (kvs : List (List Char × JT)), needF kvs ≤ (renderFields s kvs).length + 1
  | [] => Nat.le_refl 1
  | (k, v) :: kvs => by
    have h1 := need_le s hs v
    have h2 := needF_le s hs kvs
    obtain ⟨a, ha⟩ := hs.item
    simp only [needF, renderFields, List.length_append, List.length_cons, ha]
    omega
end

theorem parse_render (s : Sep) (hs : SepOk s) (j : JT) (hk : keysOk j = true) : parse (renderWith s j) = some j := by
  have h := parseVal_render s hs j [] ((renderWith s j).length + 1) hk rfl (Nat.le_succ_of_le (need_le s hs j))
  rw [List.append_nil] at h
  simp [parse, h]

end Bp.JsonText
