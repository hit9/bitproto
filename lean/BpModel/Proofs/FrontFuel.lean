import BpModel.Model.Front
/-!
# Import resolution terminates

The answer of `checkFile` does not depend on the fuel once the fuel
exceeds the number of files that are not yet being parsed — every nested import either hits the
cyclic-import check or removes one file name from that set.
-/
namespace Bp.Front

/-- file names not currently being parsed -/
def avail (files : List File) (parsing : List String) : Nat :=
  ((files.map (·.name)).filter (fun n => !parsing.contains n)).length

theorem avail_le (files : List File) (parsing : List String) : avail files parsing ≤ files.length :=
  Nat.le_trans (List.length_filter_le _ _) (Nat.le_of_eq (List.length_map _))

theorem avail_lt {files : List File} {parsing : List String} {fname : String} {f : File}
    (h : files.find? (·.name == fname) = some f) (hc : parsing.contains fname = false) :
    avail files (fname :: parsing) < avail files parsing := by
  have e : ∀ n, (!(fname :: parsing).contains n) = (!(n == fname) && !parsing.contains n) := fun n => by
    rw [List.contains_cons, Bool.not_or]
  have hm : fname ∈ files.map (·.name) :=
    List.mem_map.mpr ⟨f, List.mem_of_find?_eq_some h, by simpa using List.find?_some h⟩
  simp only [avail, e, ← List.filter_filter]
  exact List.length_filter_lt_length_iff_exists.mpr ⟨fname, List.mem_filter.mpr ⟨hm, by rw [hc]; rfl⟩, by simp⟩

theorem checkFile_stable (files : List File) (trad : Bool) :
    ∀ (f : Nat) (parsing : List String) (fname : String) (c : Ctx) (line : Nat), avail files parsing + 1 ≤ f →
      checkFile files trad (f + 1) parsing fname c line = checkFile files trad f parsing fname c line
  | 0, _, _, _, _, h => absurd h (Nat.not_succ_le_zero _)
  | f+1, parsing, fname, c, line, h => by
    rw [checkFile, checkFile]
    by_cases hc : parsing.contains fname = true
    · rw [if_pos hc, if_pos hc]
    rw [if_neg hc, if_neg hc]
    cases hf : files.find? (·.name == fname) with
    | none => rfl
    | some fl =>
      have hlt := avail_lt hf (eq_false_of_ne_true hc)
      have heq : (fun ci l file' => checkFile files trad (f + 1) (fname :: parsing) file' ci l) =
          (fun ci l file' => checkFile files trad f (fname :: parsing) file' ci l) := by
        funext ci l file'
        exact checkFile_stable files trad f (fname :: parsing) file' ci l (by omega)
      simp only [heq]

end Bp.Front
