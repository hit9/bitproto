import BpModel.Gen.PyHelpers
import BpModel.Model.Helpers
import BpModel.Model.PyRt
/-!
# Bridge (T): the helpers as `bp.py` says them now = the clean definitions used in the proofs

`Gen/PyHelpers.lean` is regenerated from /repo on every run.  These lemmas are re-checked
against it: finite domains by `decide +kernel` over the *complete* domain the runtime uses,
unbounded ones by `omega`.  A semantics-preserving rewrite of the Python source keeps them
true; a semantics-changing one makes this file fail to build.
-/
namespace Bp.Bridge
open Bp.Gen.PyHelpers

/-- `get_mask` on the whole domain the runtime uses: bit position `k < 8`, count `c ≤ 8` -/
theorem get_mask_eq : ∀ k : Fin 8, ∀ c : Fin 9, get_mask k.val c.val = (getMask k.val c.val : Nat) := by
  decide +kernel

/-- `smart_shift` on bytes and shift distances `-7 … 7` -/
theorem smart_shift_eq : ∀ n : Fin 256, ∀ k : Fin 15,
    smart_shift n.val ((k.val : Int) - 7) = (smartShift n.val ((k.val : Int) - 7) : Nat) := by
  decide +kernel

theorem get_nbits_to_copy_eq (i j n : Nat) (h : j ≤ n) :
    get_nbits_to_copy i j n = (nbitsToCopy i j n : Nat) := by
  -- the clean side is cast term by term, so that `omega` is left with the nesting of `min` in the source and nothing
  -- about truncated subtraction
  have cmin : ∀ a b : Nat, ((min a b : Nat) : Int) = min (a : Int) b := fun a b => by omega
  have hm : ∀ k : Nat, k % 8 ≤ 8 := fun k => Nat.le_of_lt (Nat.mod_lt k (by decide))
  rw [nbitsToCopy, cmin, cmin, Int.natCast_sub h, Int.natCast_sub (hm j), Int.natCast_sub (hm i),
    Int.natCast_emod, Int.natCast_emod]
  simp only [get_nbits_to_copy, PyOp.sub, PyOp.mod, Int.fmod_eq_emod_of_nonneg _ (by decide : (0:Int) ≤ 8)]
  omega

theorem int8_eq (v : Int) : int8 v = PyRt.intW 8 v := by
  simp only [int8, PyRt.intW, PyOp.sub]; split <;> split <;> omega
theorem int16_eq (v : Int) : int16 v = PyRt.intW 16 v := by
  simp only [int16, PyRt.intW, PyOp.sub]; split <;> split <;> omega
theorem int32_eq (v : Int) : int32 v = PyRt.intW 32 v := by
  simp only [int32, PyRt.intW, PyOp.sub]; split <;> split <;> omega
theorem int64_eq (v : Int) : int64 v = PyRt.intW 64 v := by
  simp only [int64, PyRt.intW, PyOp.sub]; split <;> split <;> omega

theorem flags : FLAG_BOOL = 1 ∧ FLAG_INT = 2 ∧ FLAG_UINT = 3 ∧ FLAG_BYTE = 4 ∧ FLAG_ENUM = 5 ∧
    FLAG_ALIAS = 6 ∧ FLAG_ARRAY = 7 ∧ FLAG_MESSAGE = 8 ∧ FLAG_MESSAGE_FIELD = 9 := by decide

end Bp.Bridge
