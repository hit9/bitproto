import BpModel.Model.Expr
/-!
# The parser inverts the printer: precedence, left associativity and grouping are the ordinary ones
-/
namespace Bp.Expr

theorem Op.prec_pos (o : Op) : 1 ≤ o.prec := by cases o <;> decide

-- relational (fuel-free) semantics of the parser
mutual
inductive PAtom : List Tok → E → List Tok → Prop
  | num {n ts} : PAtom (.num n :: ts) (.num n) ts
  | ref {s ts} : PAtom (.ref s :: ts) (.ref s) ts
  | paren {ts e ts'} : PExpr 1 ts e (.rp :: ts') → PAtom (.lp :: ts) e ts'
inductive PExpr : Nat → List Tok → E → List Tok → Prop
  | mk {p ts l ts1 e ts2} : PAtom ts l ts1 → PLoop p l ts1 e ts2 → PExpr p ts e ts2
inductive PLoop : Nat → E → List Tok → E → List Tok → Prop
  | step {p o l ts r ts1 e ts2} : o.prec ≥ p → PExpr (o.prec + 1) ts r ts1 →
      PLoop p (.bin o l r) ts1 e ts2 → PLoop p l (.op o :: ts) e ts2
  | stopOp {p o l ts} : o.prec < p → PLoop p l (.op o :: ts) l (.op o :: ts)
  | stopOther {p l ts} : (∀ o ts', ts ≠ .op o :: ts') → PLoop p l ts l ts
end

/-- the continuation does not start with an operator of precedence ≥ k -/
def Stops (k : Nat) : List Tok → Prop
  | .op o :: _ => o.prec < k
  | _ => True

theorem Stops.mono {k k'} (hk : k ≤ k') : ∀ {ts}, Stops k ts → Stops k' ts
  | .op _ :: _, h => Nat.lt_of_lt_of_le h hk
  | [], _ | .num _ :: _, _ | .ref _ :: _, _ | .lp :: _, _ | .rp :: _, _ => trivial

theorem PLoop.stop {p l} : ∀ {ts}, Stops p ts → PLoop p l ts l ts
  | .op _ :: _, h => .stopOp h
  | [], _ | .num _ :: _, _ | .ref _ :: _, _ | .lp :: _, _ | .rp :: _, _ => .stopOther fun _ _ e => nomatch e

/-- the parser reads back what the printer wrote and then goes on as if it had just read `e`: printed at level `q`, in
front of a continuation that stops every operator of precedence `≤ q` (`Stops (q + 1)`), and read at a level `p ≤ q`,
the text of `e` is consumed by the atom-and-loop reading exactly up to `rest`, from where the loop continues with `e`
as its left operand.  The generalisation over the loop's outcome (`e'`, `rest'`) is what lets the left operand of a
binary node hand its result to the operator that follows it. -/
theorem parses_printed : ∀ (e : E) (p q : Nat) (rest : List Tok) (e' : E) (rest' : List Tok),
    p ≤ q → Stops (q + 1) rest → PLoop p e rest e' rest' → PExpr p (pr q e ++ rest) e' rest'
  | .num n, p, q, rest, e', rest', _, _, hl => .mk .num hl
  | .ref s, p, q, rest, e', rest', _, _, hl => .mk .ref hl
  | .bin o l r, p, q, rest, e', rest', hpq, hs, hl => by
    -- the node's text without parentheses, read at any level `p' ≤ o.prec`
    have fit (p' : Nat) (rest1 : List Tok) (e1 : E) (rest1' : List Tok) (hp' : p' ≤ o.prec)
        (hs1 : Stops (o.prec + 1) rest1) (hl1 : PLoop p' (.bin o l r) rest1 e1 rest1') :
        PExpr p' (inner (pr o.prec l) (pr (o.prec + 1) r) o ++ rest1) e1 rest1' := by
      have hr : PExpr (o.prec + 1) (pr (o.prec + 1) r ++ rest1) r rest1 :=
        parses_printed r (o.prec + 1) (o.prec + 1) rest1 r rest1 (Nat.le_refl _) (hs1.mono (Nat.le_succ _))
          (PLoop.stop hs1)
      rw [inner, List.append_assoc]
      exact parses_printed l p' o.prec _ e1 rest1' hp' (Nat.lt_succ_self _) (.step hp' hr hl1)
    by_cases hq : o.prec < q
    · have hin : PExpr 1 (inner (pr o.prec l) (pr (o.prec + 1) r) o ++ (.rp :: rest)) (.bin o l r) (.rp :: rest) :=
        fit 1 (.rp :: rest) (.bin o l r) (.rp :: rest) o.prec_pos trivial (PLoop.stop trivial)
      rw [pr, if_pos hq, List.cons_append, List.append_assoc]
      exact .mk (.paren hin) hl
    · rw [pr, if_neg hq]
      exact fit p rest e' rest' (by omega) (hs.mono (by omega)) hl

theorem from_succ {P : Nat → Prop} {N : Nat} (h : ∀ f, N ≤ f → P (f + 1)) : ∀ f, N + 1 ≤ f → P f
  | 0, hf => absurd hf (Nat.not_succ_le_zero _)
  | f+1, hf => h f (Nat.le_of_succ_le_succ hf)

/-! the executable parser, given enough fuel, computes what the relation allows -/
mutual
theorem adeqAtom : ∀ {ts e ts'}, PAtom ts e ts' → ∃ N, ∀ f, N ≤ f → parseAtom f ts = some (e, ts')
  | _, _, _, .num => ⟨1, from_succ fun _ _ => rfl⟩
  | _, _, _, .ref => ⟨1, from_succ fun _ _ => rfl⟩
  | _, _, _, .paren h =>
    have ⟨N, hN⟩ := adeqExpr h
    ⟨N + 1, from_succ fun f hf => by unfold parseAtom; rw [hN f hf]⟩
theorem adeqExpr : ∀ {p ts e ts'}, PExpr p ts e ts' → ∃ N, ∀ f, N ≤ f → parseExpr f p ts = some (e, ts')
  | _, _, _, _, .mk ha hl =>
    have ⟨N1, h1⟩ := adeqAtom ha
    have ⟨N2, h2⟩ := adeqLoop hl
    ⟨N1 + N2 + 1, from_succ fun f hf => by
      unfold parseExpr
      rw [h1 f (by omega)]
      exact h2 f (by omega)⟩
theorem adeqLoop : ∀ {p l ts e ts'}, PLoop p l ts e ts' → ∃ N, ∀ f, N ≤ f → parseLoop f p l ts = some (e, ts')
  | _, _, _, _, _, .step hp he hl =>
    have ⟨N1, h1⟩ := adeqExpr he
    have ⟨N2, h2⟩ := adeqLoop hl
    ⟨N1 + N2 + 1, from_succ fun f hf => by
      unfold parseLoop
      rw [if_pos hp, h1 f (by omega)]
      exact h2 f (by omega)⟩
  | _, _, _, _, _, .stopOp hp => ⟨1, from_succ fun f _ => by unfold parseLoop; rw [if_neg (Nat.not_le_of_lt hp)]⟩
  | _, _, _, _, _, .stopOther h => ⟨1, from_succ fun f _ => parseLoop.eq_3 _ _ _ f h⟩
end

/-- the executable parser, given enough fuel, inverts the printer -/
theorem parseExpr_print (e : E) : ∃ N, ∀ f, N ≤ f → parseExpr f 1 (pr 1 e) = some (e, []) := by
  have := parses_printed e 1 1 [] e [] (Nat.le_refl _) trivial (PLoop.stop trivial)
  simp only [List.append_nil] at this
  exact adeqExpr this

end Bp.Expr
