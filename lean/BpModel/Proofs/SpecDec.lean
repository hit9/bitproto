import BpModel.Model.Evo
import BpModel.Proofs.Nodes
/-!
# Forward compatibility of the wire format (core of C05, and of C02 as the case `S1 = S2`)

`dec_evo`: if `S2` extends `S1` (`Evo S1 S2`) and the wire holds the bits of an in-range `S2`
value from bit `i`, the prefix-honouring decoder of `S1` returns the projection of that value and
stops exactly behind `S2`'s encoding.
-/
namespace Bp
open PyRt

/-- the wire `W` holds the bit chunk `c` from bit `i` -/
def HoldsBits (c : List Bool) (W i : Nat) : Prop := ∀ k, k < c.length → W.testBit (i + k) = bitAt c k

theorem HoldsBits.left {a b : List Bool} {W i : Nat} (h : HoldsBits (a ++ b) W i) : HoldsBits a W i := by
  intro k hk
  rw [h k (by rw [List.length_append]; exact Nat.lt_add_right _ hk), bitAt_append_left a b k hk]

theorem HoldsBits.right {a b : List Bool} {W i : Nat} (h : HoldsBits (a ++ b) W i) :
    HoldsBits b W (i + a.length) := by
  intro k hk
  rw [Nat.add_assoc, h (a.length + k) (by rw [List.length_append]; exact Nat.add_lt_add_left hk _),
    bitAt_append_right a b _ (Nat.le_add_right _ _), Nat.add_sub_cancel_left]

theorem HoldsBits.behind {t : Ty} {v : Val} (hv : inRange t v = true) {b : List Bool} {W i : Nat}
    (h : HoldsBits (Spec.bits t v ++ b) W i) : HoldsBits b W (i + t.nbits) :=
  bits_length t v (shape_of_inRange t v hv) ▸ h.right

theorem holds_readNat {n u W i : Nat} (h : HoldsBits (natBits n u) W i) : readNat W i n = u % 2^n := by
  apply Nat.eq_of_testBit_eq
  intro k
  rw [readNat_testBit, Nat.testBit_mod_two_pow]
  by_cases hk : k < n
  · rw [h k (by rw [natBits_length]; exact hk), bitAt_natBits]; simp [hk]
  · simp [hk]

theorem dec_scalar_holds {t : Ty} (ht : t.isScalar = true) (hwf : t.wf = true) {v : Val}
    (hr : inRange t v = true) {W L i : Nat} (hb : HoldsBits (Spec.bits t v) W i) (hL : i + t.nbits ≤ L) :
    Spec.dec t W L i = some (v, i + t.nbits) := by
  obtain ⟨x, rfl, hx⟩ := inRange_scalar ht hr
  rw [Spec.bits_scalar ht] at hb
  rw [Spec.dec_scalar ht, readB, if_pos hL, holds_readNat hb, Nat.mod_eq_of_lt (tc_lt x _)]
  cases hs : t.signed <;> simp only [hs, Bool.false_eq_true, if_false, if_true] at hx
  · simp [leafVal, tc_of_nonneg x _ hx.1 hx.2]
  · simp [leafVal, sgn_tc x _ ((wf_scalar ht hwf).2 hs) hx.1 hx.2]

/-- behind the prefix of an extensible node: what the prefix reads as, and the body (`m`: the room the caller has for
what follows the prefix; only that the prefix itself is inside the buffer is used) -/
theorem holds_prefix {ext : Bool} {v m : Nat} {body : List Bool} {W L i : Nat} (hv : v ≤ 65535)
    (hb : HoldsBits ((if ext then natBits 16 v else []) ++ body) W i) (hL : i + extBits ext + m ≤ L) :
    (ext = true → readB W L i 16 = some v) ∧ HoldsBits body W (i + extBits ext) := by
  cases ext with
  | false => simpa [extBits] using hb
  | true =>
    refine ⟨fun _ => ?_, by simpa [natBits_length, extBits] using hb.right⟩
    have hL : i + 16 ≤ L := Nat.le_trans (Nat.le_add_right _ m) hL
    rw [readB, if_pos hL, holds_readNat hb.left, Nat.mod_eq_of_lt (Nat.lt_succ_of_le hv)]

theorem flatMap_bits_length (e : Ty) : ∀ (vs : List Val), (∀ v ∈ vs, inRange e v = true) →
    (vs.flatMap (Spec.bits e)).length = vs.length * e.nbits :=
  fun vs h => length_flatMap_const vs fun v hv => bits_length e v (shape_of_inRange e v (h v hv))

/-! `Spec.dec` is written in two shapes: an element, then the rest; behind the prefix of an extensible node, the body.
Where the parts have a result, so has the whole; the lemmas apply to the definitions themselves, which unfold to
these shapes (rewriting with the equation lemmas of `Spec.dec` instead is much dearer to check). -/

theorem dec_cons {o : Option (Val × Nat)} {os : Nat → Option (List Val × Nat)} {v : Val} {vs : List Val}
    {i1 i2 : Nat} : o = some (v, i1) → os i1 = some (vs, i2) →
    (match o with
      | none => none
      | some (v, i1) => match os i1 with
        | none => none
        | some (vs, i2) => some (v :: vs, i2)) = some (v :: vs, i2) :=
  fun h1 h2 => by simp only [h1, h2]

theorem dec_node {ext : Bool} {W L i ahead i2 : Nat} {vs : List Val} {C : List Val → Val} {next : Nat → Nat → Nat}
    {o : Nat → Option (List Val × Nat)} :
    (ext = true → readB W L i 16 = some ahead) → o (i + extBits ext) = some (vs, i2) →
    (if ext then
      match readB W L i 16 with
      | none => none
      | some ahead => match o (i + 16) with
        | none => none
        | some (vs, i2) => some (C vs, next ahead i2)
    else
      match o i with
      | none => none
      | some (vs, i2) => some (C vs, i2)) = some (C vs, if ext then next ahead i2 else i2) := by
  intro hp hd
  cases ext with
  | false => simp only [show o i = _ from hd, Bool.false_eq_true, if_false]
  | true => simp only [hp rfl, show o (i + 16) = _ from hd, if_true]

/-- the skip behind an extensible array of which a decoder knows `c1` of the `c2` elements: `c2 - c1` further ones, each
of the size the `c1` decoded ones had on average (`n` bits, `i` the start of the prefix) -/
theorem arr_skip {c1 c2 : Nat} (h1 : 1 ≤ c1) (h12 : c1 ≤ c2) (i n : Nat) :
    (if c2 > c1 then i + 16 + c1 * n + (c2 - c1) * ((i + 16 + c1 * n - i - 16) / c1) else i + 16 + c1 * n) =
      i + 16 + c2 * n := by
  by_cases hgt : c2 > c1
  · -- the average is `c1 * n / c1 = n`, and `c1 * n + (c2 - c1) * n = c2 * n`
    rw [if_pos hgt, Nat.add_assoc i, Nat.add_sub_cancel_left, Nat.add_sub_cancel_left, Nat.mul_div_cancel_left _ h1,
      ← Nat.add_assoc, Nat.add_assoc _ (c1 * n), ← Nat.add_mul, Nat.add_sub_cancel' h12]
  · rw [if_neg hgt, Nat.le_antisymm h12 (Nat.le_of_not_lt hgt)]

theorem decArr_evo {e1 e2 : Ty} {W L : Nat}
    (ih : ∀ v j, inRange e2 v = true → HoldsBits (Spec.bits e2 v) W j → j + e2.nbits ≤ L →
      Spec.dec e1 W L j = some (Spec.proj e1 v, j + e2.nbits))
    (k : Nat) (vs : List Val) (j : Nat) (h : k ≤ vs.length) (hr : ∀ v ∈ vs, inRange e2 v = true)
    (hb : HoldsBits (vs.flatMap (Spec.bits e2)) W j) (hL : j + vs.length * e2.nbits ≤ L) :
    decArrWith (Spec.dec e1 W L) k j = some ((vs.take k).map (Spec.proj e1), j + k * e2.nbits) := by
  induction k generalizing vs j with
  | zero => rw [Nat.zero_mul]; rfl
  | succ k ihk =>
    cases vs with
    | nil => cases h
    | cons v vs =>
      obtain ⟨hv, hr⟩ := List.forall_mem_cons.1 hr
      rw [List.flatMap_cons] at hb
      rw [List.length_cons, Nat.succ_mul, Nat.add_comm _ e2.nbits, ← Nat.add_assoc] at hL
      have h1 := ih v j hv hb.left (Nat.le_trans (Nat.le_add_right _ _) hL)
      have h2 := ihk vs (j + e2.nbits) (Nat.le_of_succ_le_succ h) hr (hb.behind hv) hL
      refine (dec_cons h1 h2).trans (congrArg (fun n => some (_, n)) ?_)
      rw [Nat.succ_mul, Nat.add_comm (k * _), Nat.add_assoc]

mutual
theorem dec_evo : ∀ {S1 S2 : Ty}, Evo S1 S2 → ∀ (v2 : Val) (W L i : Nat), S2.wf = true →
    inRange S2 v2 = true → HoldsBits (Spec.bits S2 v2) W i → i + S2.nbits ≤ L →
    Spec.dec S1 W L i = some (Spec.proj S1 v2, i + S2.nbits)
  | _, _, .bool | _, _, .byte | _, _, .uint | _, _, .int | _, _, .enum => fun _ _ _ _ hwf hr =>
    dec_scalar_holds rfl hwf hr
  | _, _, .alias hs => fun v2 W L i hwf => dec_evo hs v2 W L i (wf_alias hwf)
  | _, _, @Evo.arr ext c1 _ e1 e2 h1 h12 hne hs => fun v2 W L i hwf hr hb hL => by
    obtain ⟨vs, rfl, rfl, hall⟩ := inRange_array hr
    obtain ⟨_, hc65, hwfe⟩ := wf_array hwf
    simp only [Ty.nbits, ← Nat.add_assoc] at hL ⊢
    obtain ⟨hpre, hb2⟩ := holds_prefix hc65 hb hL
    have hd := decArr_evo (fun v j => dec_evo hs v W L j hwfe) c1 vs (i + extBits ext) h12 hall hb2 hL
    apply (dec_node hpre hd).trans
    apply congrArg (fun n => some (_, n))
    cases ext with
    | false => rw [if_neg Bool.false_ne_true, hne rfl]
    | true => rw [if_pos rfl]; exact arr_skip h1 h12 i e2.nbits
  | _, _, .msg (ext := ext) hs => fun v2 W L i hwf hr hb hL => by
    obtain ⟨vs, rfl, hr⟩ := inRange_msg hr
    obtain ⟨h65, hwff⟩ := wf_msg hwf
    simp only [Ty.nbits, ← Nat.add_assoc] at hL ⊢
    obtain ⟨hpre, hb2⟩ := holds_prefix h65 hb hL
    obtain ⟨used, hd, hle, heq⟩ := dec_evo_fields hs vs W L (i + extBits ext) hwff hr hb2 hL
    apply (dec_node hpre hd).trans
    apply congrArg (fun n => some (_, n))
    cases ext with
    | false => rw [if_neg Bool.false_ne_true, heq rfl]
    | true =>
      -- the announced size reaches at least to the end of the fields this schema knows
      rw [if_pos rfl, if_pos (by omega), Nat.add_assoc]
-- recursion on the type, whose form the derivation fixes; left to itself Lean recurses on the derivation, which is
-- several times dearer to compile
termination_by structural S1 => S1
theorem dec_evo_fields : ∀ {ext : Bool} {fs1 fs2 : List (Nat × Ty)}, EvoFields ext fs1 fs2 →
    ∀ (vs : List Val) (W L j : Nat), wfFields fs2 = true → inRangeFields fs2 vs = true →
    HoldsBits (Spec.bitsFields fs2 vs) W j → j + fieldsBits fs2 ≤ L →
    ∃ used, Spec.decFields fs1 W L j = some (Spec.projFields fs1 vs, j + used) ∧ used ≤ fieldsBits fs2 ∧
      (ext = false → used = fieldsBits fs2)
  | _, _, _, .nil => fun _ _ _ _ _ _ _ _ => ⟨0, rfl, Nat.le_refl _, fun _ => rfl⟩
  | _, _, _, .extra => fun _ _ _ _ _ _ _ _ => ⟨0, rfl, Nat.zero_le _, fun h => nomatch h⟩
  | _, _, _, .cons (t2 := t2) ht hfs => fun
    | v :: vs => fun W L j hwf hr hb hL => by
      have hr := inRangeFields_cons hr
      simp only [fieldsBits, ← Nat.add_assoc] at hL
      have h1 := dec_evo ht v W L j (wfFields_cons hwf).1 hr.1 hb.left (Nat.le_trans (Nat.le_add_right _ _) hL)
      obtain ⟨used, hd, hle, heq⟩ :=
        dec_evo_fields hfs vs W L (j + t2.nbits) (wfFields_cons hwf).2 hr.2 (hb.behind hr.1) hL
      refine ⟨t2.nbits + used, ?_, Nat.add_le_add_left hle _, fun h => congrArg (t2.nbits + ·) (heq h)⟩
      rw [← Nat.add_assoc]
      exact dec_cons h1 hd
    | [] => fun _ _ _ _ hr => by simp [inRangeFields] at hr
termination_by structural _ fs1 => fs1
end

end Bp
